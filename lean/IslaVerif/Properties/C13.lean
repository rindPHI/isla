import IslaVerif.Properties.C12
/-
C13 — tree insertion yields valid trees keeping all original nodes and the new tree.

`insert_tree` and its three methods are graph searches; they are not modelled.  Proved here: the result
checker through which every returned tree is passed is sound for the four clauses of the property, for every
grammar and all trees; and the generic facts about `replace_path` the methods rely on (that expansion steps
keep validity, the root and every expanded part is C12 `expandRun_ok`).
-/
namespace IslaVerif.C13
open DTree

/-- an accepted result is a derivation tree of the grammar with the host's root symbol, contains
every node of the host with its label (expanded nodes with their expansion), and contains the inserted tree -/
theorem insertCheck_sound (g : Grammar) (host ins r : DTree) (h : insertCheck g host ins r = true) :
    r.valid g = true ∧ r.sym = host.sym ∧
    (∀ p u, host.get p = some u → ∃ q v, r.get q = some v ∧ KeepsNode u v) ∧
    (∃ q v, r.get q = some v ∧ Embeds ins v) := by
  simp only [insertCheck, Bool.and_eq_true, beq_iff_eq] at h
  obtain ⟨⟨⟨h1, h2⟩, h3⟩, h4⟩ := h
  obtain ⟨q, v, hq, hp⟩ := (any_paths_iff r _).1 h4
  exact ⟨h1, h2, keeps_of_check h3, q, v, hq, (embedsAt_iff' ins v).1 hp⟩

theorem keepsNode_iff (u v : DTree) : keepsNode u v = true ↔ KeepsNode u v := keepsNode_iff' u v

theorem embedsAt_iff (a b : DTree) : embedsAt a b = true ↔ Embeds a b := embedsAt_iff' a b

/-- every method builds its results by `replace_path` -/
theorem valid_replace (g : Grammar) (p : Path) (t u old t' : DTree) (hv : t.valid g = true) (hu : u.valid g = true)
    (hg : t.get p = some old) (hs : old.sym = u.sym) (hr : t.replace p u = some t') :
    t'.valid g = true ∧ t'.sym = t.sym := C12.replace_ok g p t u old t' hv hu hg hs hr

/-- … and nothing outside the replaced position changes (C16 `replace_get_disjoint`), so nodes of the
host that are not below the replaced position keep identity and label -/
theorem replace_keeps_other_nodes (t t' u : DTree) (p q : Path) (h : t.replace p u = some t')
    (hpq : ¬ p <+: q) (hqp : ¬ q <+: p) : t'.get q = t.get q := DTree.replace_get_disjoint t t' u p q h hpq hqp

/-- in particular the root of the host survives, with its identity and label, as a node of the result -/
theorem insertCheck_keeps_root (g : Grammar) (host ins r : DTree) (h : insertCheck g host ins r = true) :
    ∃ q v, r.get q = some v ∧ v.id = host.id ∧ v.sym = host.sym := by
  obtain ⟨_, _, hk, _⟩ := insertCheck_sound g host ins r h
  obtain ⟨q, v, hq, hkn⟩ := hk [] host (get_nil host)
  exact ⟨q, v, hq, hkn.1, hkn.2.1⟩

/-- `KeepsNode` is reflexive and transitive: nodes kept by one insertion stay kept by the next one
(insert_trees / connect_trees chain insertions) -/
theorem keepsNode_refl (u : DTree) : KeepsNode u u :=
  ⟨rfl, rfl, fun i s ks h => ⟨i, s, ks, h, rfl⟩⟩

theorem keepsNode_trans (u v w : DTree) (h1 : KeepsNode u v) (h2 : KeepsNode v w) : KeepsNode u w := by
  refine ⟨h2.1.trans h1.1, h2.2.1.trans h1.2.1, ?_⟩
  intro i s ks hu
  obtain ⟨j, s', ks', hv, hm⟩ := h1.2.2 i s ks hu
  obtain ⟨j2, s2, ks2, hw, hm2⟩ := h2.2.2 j s' ks' hv
  exact ⟨j2, s2, ks2, hw, hm2.trans hm⟩

/-- chained insertions keep every node of the first host -/
theorem insertCheck_chain (g : Grammar) (host ins1 r1 ins2 r2 : DTree)
    (h1 : insertCheck g host ins1 r1 = true) (h2 : insertCheck g r1 ins2 r2 = true) :
    r2.valid g = true ∧ r2.sym = host.sym ∧
    (∀ p u, host.get p = some u → ∃ q v, r2.get q = some v ∧ KeepsNode u v) := by
  obtain ⟨_, s1, k1, _⟩ := insertCheck_sound g host ins1 r1 h1
  obtain ⟨v2, s2, k2, _⟩ := insertCheck_sound g r1 ins2 r2 h2
  refine ⟨v2, s2.trans s1, ?_⟩
  intro p u hu
  obtain ⟨q, v, hq, hkv⟩ := k1 p u hu
  obtain ⟨q', v', hq', hkv'⟩ := k2 q v hq
  exact ⟨q', v', hq', keepsNode_trans u v v' hkv hkv'⟩

/-! non-vacuity: the host `<s>(<a>("x"))` with `<s> ::= <a> | <a><s>`; inserting `<a>("y")` by self embedding -/
def gEx : Grammar := [("<s>", [["<a>"], ["<a>", "<s>"]]), ("<a>", [["x"], ["y"]])]
def host : DTree := .node 1 "<s>" [.node 2 "<a>" [.node 3 "x" []]]
def ins : DTree := .node 10 "<a>" [.node 11 "y" []]
def res : DTree := .node 20 "<s>" [.node 10 "<a>" [.node 11 "y" []], .node 1 "<s>" [.node 2 "<a>" [.node 3 "x" []]]]
def lossy : DTree := .node 1 "<s>" [.node 10 "<a>" [.node 11 "y" []]]
example : insertCheck gEx host ins res = true := by decide +kernel
example : insertCheck gEx host ins lossy = false := by decide +kernel

end IslaVerif.C13
