import IslaVerif.Proofs.TreeOps
import IslaVerif.Proofs.Targets
import IslaVerif.Proofs.Derivation
/-
C14 — solver helpers that build trees to a target meet that target.

`create_fixed_length_tree`, the parsing of numeric model values and the completion performed by
`count` are searches; they are not modelled.  Proved: the three checkers through which every result
of the real helpers is passed are sound, for every grammar and tree; and the reachability oracle the
count checker relies on is exact whenever it answers (self-certifying saturation).
-/
namespace IslaVerif.C14
open Targets DTree

/-- an accepted fixed-length result: closed derivation tree of the requested nonterminal whose
string has exactly the requested number of characters -/
theorem fixedLenCheck_sound (g : Grammar) (start : String) (n : Nat) (r : DTree) (h : fixedLenCheck g start n r = true) :
    r.valid g = true ∧ r.closed = true ∧ r.sym = start ∧ (r.yieldC g).length = n := by
  simp only [fixedLenCheck, Bool.and_eq_true, beq_iff_eq] at h
  exact ⟨h.1.1.1, h.1.1.2, h.1.2, h.2⟩

/-- an accepted numeric value: closed derivation tree of the nonterminal whose string is an
(optionally signed, possibly zero-padded) numeral of the requested integer -/
theorem numericCheck_sound (g : Grammar) (nt : String) (v : Int) (r : DTree) (h : numericCheck g nt v r = true) :
    r.valid g = true ∧ r.closed = true ∧ r.sym = nt ∧ intOfChars (r.yieldC g) = some v := by
  simp only [numericCheck, Bool.and_eq_true, beq_iff_eq] at h
  exact ⟨h.1.1.1, h.1.1.2, h.1.2, h.2⟩

/-- an accepted fixed-length result witnesses that the nonterminal's language contains a word of
exactly the requested length -/
theorem fixedLenCheck_inLang (g : Grammar) (start : String) (n : Nat) (r : DTree)
    (h : fixedLenCheck g start n r = true) : ∃ w, C10.InLang g start w ∧ w.length = n := by
  obtain ⟨h1, h2, h3, h4⟩ := fixedLenCheck_sound g start n r h
  exact ⟨r.yieldC g, ⟨r, h1, h2, h3, rfl⟩, h4⟩

/-- an accepted numeric value witnesses a numeral for `v` in the nonterminal's language -/
theorem numericCheck_inLang (g : Grammar) (nt : String) (v : Int) (r : DTree)
    (h : numericCheck g nt v r = true) : ∃ w, C10.InLang g nt w ∧ intOfChars w = some v := by
  obtain ⟨h1, h2, h3, h4⟩ := numericCheck_sound g nt v r h
  exact ⟨r.yieldC g, ⟨r, h1, h2, h3, rfl⟩, h4⟩

/-- on plain digit strings the numeral value is the positional value -/
theorem intOfChars_digits (ds : List Char) (h1 : ds ≠ []) (h2 : ds.all Char.isDigit = true) :
    intOfChars ds = some (Int.ofNat (ds.foldl (fun a c => 10 * a + (c.toNat - 48)) 0)) := by
  have hne : ds.isEmpty = false := List.isEmpty_eq_false_iff.2 h1
  unfold intOfChars
  split
  · simp only [List.all_cons, Bool.and_eq_true] at h2
    exact absurd h2.1 (by decide)
  · simp only [List.all_cons, Bool.and_eq_true] at h2
    exact absurd h2.1 (by decide)
  · simp [hne, h2]

/-- the certified saturation is exactly reachability through one or more derivation steps -/
theorem reachSet_iff (g : Grammar) (A : String) (R : List String) (h : reachSet g A = some R) (B : String) :
    B ∈ R ↔ Reach g A B := reachSet_iff' g A R h B

/-- an accepted count completion: a derivation tree with the argument's root that contains the
argument's nodes (expanded nodes with their expansion), has exactly `n` nodes labelled with the needle,
and has no open leaf from which a needle can still be derived -/
theorem countCheck_sound (g : Grammar) (arg : DTree) (needle : String) (n : Nat) (r : DTree)
    (h : countCheck g arg needle n r = some true) :
    r.valid g = true ∧ r.sym = arg.sym ∧ countSym r needle = n ∧
    (∀ p u, r.get p = some u → u.isOpenLeaf = true → ¬ Reach g u.sym needle) ∧
    (∀ p u, arg.get p = some u → ∃ q v, r.get q = some v ∧ KeepsNode u v) := by
  unfold countCheck at h
  dsimp only at h
  split at h
  · cases h
  · rename_i rs hm
    simp only [Option.some.injEq, Bool.and_eq_true, beq_iff_eq] at h
    obtain ⟨⟨⟨⟨h1, h2⟩, h3⟩, h4⟩, h5⟩ := h
    refine ⟨h1, h2, h3, fun p u hg ho hr => ?_, keeps_of_check h5⟩
    -- the verdict for this open leaf's symbol would be a `true` among `rs`, all of which are `false`
    cases List.all_eq_true.1 h4 true (true_mem_of_reach_openLeaf hm hg ho hr)

/-! non-vacuity: a completion whose open leaf cannot derive the needle is accepted, the argument itself,
whose open leaf can, is not; a tree of the asked length; signed and padded numerals -/
def gEx : Grammar := [("<l>", [["<i>"], ["<i>", ",", "<l>"]]), ("<i>", [["x"], ["y"]])]
def argEx : DTree := .node 1 "<l>" [.node 2 "<i>" [.node 3 "x" []], .node 4 "," [], .openLeaf 5 "<l>"]
def resEx : DTree := .node 1 "<l>" [.node 2 "<i>" [.node 3 "x" []], .node 4 "," [], .node 5 "<l>" [.openLeaf 7 "<i>"]]
example : countCheck gEx argEx "<i>" 2 resEx = some true := by decide +kernel
example : countCheck gEx argEx "<i>" 2 argEx = some false := by decide +kernel
example : fixedLenCheck gEx "<l>" 3 (.node 1 "<l>" [.node 2 "<i>" [.node 3 "x" []], .node 4 "," [], .node 6 "<l>" [.node 7 "<i>" [.node 8 "y" []]]]) = true := by decide +kernel
example : intOfChars "-007".toList = some (-7) ∧ intOfChars "+12".toList = some 12 ∧ intOfChars "1a".toList = none := by decide +kernel

end IslaVerif.C14
