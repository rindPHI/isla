import IslaVerif.Proofs.Serial
/-
C17 — serialized trees round-trip without damaging the original (tree codec + object-state machine).
-/
namespace IslaVerif.C17
open IslaVerif.Serial IslaVerif.Serial.CTree

/-- decoding an encoded tree gives back the same tree — structure, node identities, labels and the
serialized cache fields — with the two (unserializable) k-path caches emptied -/
theorem decode_encode (t : CTree) : decode (encode t) = some (clearK t) :=
  decodeF_encode t _ (depth_le_jdepth t)

mutual
/-- emptying the k-path caches changes neither structure nor identities nor labels -/
theorem erase_clearK (t : CTree) : erase (clearK t) = erase t :=
  match t with
  | .openLeaf .. => rfl
  | .node i s ks _ => congrArg (DTree.node i s) (eraseL_clearKL ks)
theorem eraseL_clearKL : ∀ ks : List CTree, eraseL (clearKL ks) = eraseL ks
  | [] => rfl
  | k :: ks => List.cons_eq_cons.2 ⟨erase_clearK k, eraseL_clearKL ks⟩
end

mutual
/-- the serialized form does not depend on previously computed k-path caches, anywhere in the tree -/
theorem encode_clearK (t : CTree) : encode (clearK t) = encode t :=
  match t with
  | .openLeaf .. => rfl
  -- `encFields` reads none of the two cache flags, so only the children differ
  | .node i s ks f => congrArg (fun xs => encFields s (.arr xs) i f) (encodeL_clearKL ks)
theorem encodeL_clearKL : ∀ ks : List CTree, encodeL (clearKL ks) = encodeL ks
  | [] => rfl
  | k :: ks => List.cons_eq_cons.2 ⟨encode_clearK k, encodeL_clearKL ks⟩
end

/-- every operation succeeds in every state (unless it addresses a path that does not exist) -/
theorem step_total (t : CTree) (op : Op) :
    (∀ cls, (step t op).2 ≠ .error cls) ∨
    (∃ p, (op = .kPaths p ∨ op = .concreteKPaths p) ∧ t.get p = none) := by
  cases op with
  | kPaths p | concreteKPaths p =>
    simp only [step]
    split
    · exact .inl fun _ => Out.noConfusion
    · exact .inr ⟨p, by simp, updateAt_none_get _ p t ‹_›⟩
  | toJson | observe => exact .inl fun _ => Out.noConfusion
  | pickleRoundTrip => simp only [step, decode_encode]; exact .inl fun _ => Out.noConfusion

/-- serializing never changes the live object -/
theorem toJson_pure (t : CTree) : (step t .toJson).1 = t ∧ (step t .toJson).2 = .json (encode t) :=
  ⟨rfl, rfl⟩

/-- nor does a pickle round trip; what it returns is the tree with the k-path caches emptied -/
theorem pickle_pure (t : CTree) :
    (step t .pickleRoundTrip).1 = t ∧ (step t .pickleRoundTrip).2 = .tree (clearK t) := by
  simp only [step, decode_encode, and_self]

/-- no history of cache computations and serializations changes structure, identities or string -/
theorem run_erase (t : CTree) (ops : List Op) : erase (run t ops).1 = erase t := by
  induction ops generalizing t with
  | nil => rfl
  | cons op ops ih => simp only [run]; rw [ih, step_erase]

/-- after ANY history, a pickle of the live object unpickles to its structure and identities -/
theorem pickle_after_history (t : CTree) (ops : List Op) :
    ∃ t', decode (encode (run t ops).1) = some t' ∧ erase t' = erase t :=
  ⟨_, decode_encode _, by rw [erase_clearK, run_erase]⟩

/-- injectivity up to `erase`, not of `encode` itself (the k-path caches are not serialized): the serialized
form determines structure, identities and string, so two trees with the same JSON / pickle have the same erasure -/
theorem encode_inj (a b : CTree) (h : encode a = encode b) : erase a = erase b := by
  have ha := decode_encode a
  have hb := decode_encode b
  rw [h, hb] at ha
  have : clearK b = clearK a := Option.some.inj ha
  rw [← erase_clearK a, ← erase_clearK b, this]

/-- a second round trip changes nothing more -/
theorem roundtrip_idem (t : CTree) : decode (encode (clearK t)) = some (clearK t) := by
  rw [encode_clearK]; exact decode_encode t

/-! non-vacuity: a history of cache computations at both children, a pickle round trip and a `to_json`, on a tree
with an open leaf whose k-path cache is already filled -/
def f0 : Fields := { len := none, hash := none, shash := none, isOpen := some true, kPaths := false, concreteKPaths := false }
def exC : CTree := .node 1 "<s>" [.openLeaf 2 "<a>" { f0 with kPaths := true }, .node 3 "x" [] { f0 with isOpen := some false, len := some 1 }] f0
example : (run exC [.kPaths [1], .pickleRoundTrip, .kPaths [0], .toJson]).2.length = 4 := by decide +kernel

end IslaVerif.C17
