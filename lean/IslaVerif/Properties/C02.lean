import IslaVerif.Proofs.SolveLoop
/-
C02 — solve() only returns solutions or signals exhaustion / timeout, then stays so.

`SolveLoop.run T s cs evts` (Model/SolveLoop.lean) is the exit logic of `ISLaSolver.solve()` over an
arbitrary stream of loop events (what the 4000-line search does between two exits is abstracted
into these events); the theorems hold for EVERY event stream, initial state and number of calls.
By construction the model's outcomes are `tree | stop | timeout` (`outOfEvents` only marks the end
of a finite recorded trace); that the solver *body* raises nothing else is explored, not proved.
-/
namespace IslaVerif.C02
open IslaVerif.SolveLoop

/-- StopIteration is raised only from a state with an empty queue and no pending solution -/
theorem stop_exhausted (T : Option Int) (c : Int) (s s' : St) (evts evts' : List Evt)
    (h : solveCall T c s evts = (.stop, s', evts')) : Exhausted s' := by
  have := loop_stop T (pre T c s) evts
  rw [← solveCall_eq, h] at this
  exact this rfl

/-- … and from such a state every call raises it again, whatever the clock and the events -/
theorem exhausted_stop (T : Option Int) (c : Int) (s : St) (evts : List Evt) (h : Exhausted s) :
    (solveCall T c s evts).1 = .stop ∧ Exhausted (solveCall T c s evts).2.1 := by
  have hp : Exhausted (pre T c s) := ⟨by rw [pre_qlen]; exact h.1, by rw [pre_sols]; exact h.2⟩
  rw [solveCall_eq, loop_exhausted T _ evts hp]
  exact ⟨rfl, hp⟩

theorem run_length (T : Option Int) (cs : List Int) (s : St) (evts : List Evt) :
    (run T s cs evts).length = cs.length := by
  induction cs generalizing s evts with
  | nil => rfl
  | cons c cs ih => rw [run_cons, List.length_cons, List.length_cons, ih]

/-- after StopIteration no later call returns a tree (nor times out) -/
theorem no_tree_after_stop (T : Option Int) (cs : List Int) (s : St) (evts : List Evt) (i j : Nat) (o : Outcome)
    (h : (run T s cs evts)[i]? = some .stop) (hij : i ≤ j) (ho : (run T s cs evts)[j]? = some o) :
    o = .stop :=
  run_sticky (Q := (· = .stop)) (Pre := fun _ => True) (I := fun s _ => Exhausted s)
    (first := rfl)
    (keep := fun _ _ _ _ => trivial)
    (entry := fun c s evts _ => loop_stop T (pre T c s) evts)
    (absorb := fun c s evts => exhausted_stop T c s evts)
    (start := trivial) (hi := h) (hij := hij) (hj := ho)

/-- once StopIteration, always StopIteration — every call sequence, every event stream -/
theorem stop_sticky (T : Option Int) (cs : List Int) (s : St) (evts : List Evt) (i j : Nat)
    (h : (run T s cs evts)[i]? = some .stop) (hij : i ≤ j) (hj : j < cs.length) :
    (run T s cs evts)[j]? = some .stop := by
  rw [← run_length T cs s evts] at hj
  rw [List.getElem?_eq_getElem hj]
  exact congrArg some (no_tree_after_stop T cs s evts i j _ h hij (List.getElem?_eq_getElem hj))

/-- after TimeoutError no later call returns a tree or StopIteration (monotone clock) -/
theorem no_tree_after_timeout (T : Option Int) (cs : List Int) (s : St) (evts : List Evt) (i j : Nat) (o : Outcome)
    (hm : Mono evts) (h : (run T s cs evts)[i]? = some .timeout) (hij : i ≤ j)
    (ho : (run T s cs evts)[j]? = some o) : o = .timeout ∨ o = .outOfEvents :=
  run_sticky (Q := fun o => o = .timeout ∨ o = .outOfEvents) (Pre := Mono) (I := Stuck T)
    (first := .inl rfl)
    (keep := fun c s evts => loop_mono T (pre T c s) evts)
    (entry := fun c s evts => loop_timeout T (pre T c s) evts)
    (absorb := stuck_call T)
    (start := hm) (hi := h) (hij := hij) (hj := ho)

/-- once TimeoutError, every later call raises TimeoutError again, provided the clock never goes back
(`outOfEvents`: the finite recorded trace has ended, the real loop would still be running) -/
theorem timeout_sticky (T : Option Int) (cs : List Int) (s : St) (evts : List Evt) (i j : Nat)
    (hm : Mono evts) (h : (run T s cs evts)[i]? = some .timeout) (hij : i ≤ j) (hj : j < cs.length) :
    (run T s cs evts)[j]? = some .timeout ∨ (run T s cs evts)[j]? = some .outOfEvents := by
  rw [← run_length T cs s evts] at hj
  rw [List.getElem?_eq_getElem hj]
  exact (no_tree_after_timeout T cs s evts i j _ hm h hij (List.getElem?_eq_getElem hj)).imp
    (congrArg some) (congrArg some)

/-- no TimeoutError unless a timeout is configured -/
theorem no_timeout_without_limit (cs : List Int) (s : St) (evts : List Evt) :
    Outcome.timeout ∉ run none s cs evts := fun h =>
  have : Outcome.timeout ≠ .timeout :=
    run_absorbing (I := fun _ _ => True) (Q := (· ≠ .timeout))
      (absorb := fun c s evts _ => ⟨loop_no_timeout (pre none c s) evts, trivial⟩)
      (start := trivial) (mem := h)
  this rfl

/-- every returned tree was pending or reported by a processing step, in that order, none twice -/
theorem trees_sublist (T : Option Int) (cs : List Int) (s : St) (evts : List Evt) :
    List.Sublist (treesOf (run T s cs evts)) (s.sols ++ evts.flatMap (·.found)) := by
  induction cs generalizing s evts with
  | nil => exact List.nil_sublist _
  | cons c cs ih =>
    have h := loop_trees T (pre T c s) evts
    rw [pre_sols, ← solveCall_eq] at h
    rw [run_cons, treesOf_cons]
    exact (List.Sublist.append (List.Sublist.refl _) (ih _ _)).trans h

/-! non-vacuity: two solutions found by the first iteration, then exhaustion; a timeout that sticks -/
example : run none { qlen := 1, sols := [], start := none } [0, 0, 0, 0]
    [{ now := 0, qafter := 0, found := [7, 8] }] = [.tree 7, .tree 8, .stop, .stop] := by decide +kernel
example : run (some 2) { qlen := 1, sols := [], start := none } [10, 0, 0]
    [{ now := 11, qafter := 1, found := [5] }, { now := 13, qafter := 1, found := [] }, { now := 13, qafter := 1, found := [] }]
    = [.timeout, .timeout, .outOfEvents] := by decide +kernel
example : Mono [({ now := 11, qafter := 1, found := [5] } : Evt), { now := 13, qafter := 1, found := [] }] := by
  simp [Mono]

end IslaVerif.C02
