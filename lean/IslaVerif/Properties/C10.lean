import IslaVerif.Proofs.Derivation
/-
C10 — the parser accepts exactly the grammar's language and returns faithful trees.
The theorems are about the *reference* recognizer and tree checker the real parser is compared
with on every input (the Earley implementation itself is validated per input, not proved).
-/
namespace IslaVerif.C10
open Rec Grammar

/-- whenever the reference recognizer answers, its answer is exactly derivability of the whole string -/
theorem recognize_iff {g : Grammar} {A : String} {s : List Char} {b : Bool} (h : recognize g A s = some b) :
    b = true ↔ Der g s A 0 s.length := by
  unfold recognize at h
  dsimp only at h
  split at h
  · rename_i hc
    cases h
    rw [List.contains_iff_mem]
    exact ⟨iter_sound _ [] (fun _ h => nomatch h) _, fun hd => der_complete hc hd (Nat.zero_le _)⟩
  · cases h

/-- … which is membership in the language of `A` in the sense of derivation trees
(for grammars in which the empty string is not a nonterminal — always the case: nonterminals are `<…>`) -/
theorem recognize_inLang {g : Grammar} {A : String} {s : List Char} {b : Bool}
    (h0 : isNT g "" = false) (hA : isNT g A = true) (h : recognize g A s = some b) :
    b = true ↔ InLang g A s :=
  (recognize_iff h).trans (der_iff_inLang h0 hA)

/-- the tree checker used on every tree the parser yields: all four clauses hold exactly when the
tree witnesses `s ∈ L(A)` -/
theorem checkTree_iff (g : Grammar) (A : String) (s : String) (t : DTree) :
    (t.valid g = true ∧ t.closed = true ∧ (t.sym == A) = true ∧ (t.yieldC g == s.toList) = true) ↔
    (t.valid g = true ∧ t.closed = true ∧ t.sym = A ∧ t.yieldC g = s.toList) := by
  simp

/-- a certified tree proves membership -/
theorem checkTree_sound (g : Grammar) (A : String) (s : String) (t : DTree)
    (h : t.valid g = true ∧ t.closed = true ∧ t.sym = A ∧ t.yieldC g = s.toList) : InLang g A s.toList :=
  ⟨t, h.1, h.2.1, h.2.2.1, h.2.2.2⟩

/-- the two verified references can never disagree: a tree accepted by the tree checker forces the
recognizer's answer to be `true` (so "parser yields a certified tree" and "recognizer rejects" on the
same input is impossible for every grammar and string) -/
theorem checkTree_recognize (g : Grammar) (A : String) (s : String) (t : DTree) (b : Bool)
    (h0 : isNT g "" = false) (hA : isNT g A = true)
    (h : t.valid g = true ∧ t.closed = true ∧ t.sym = A ∧ t.yieldC g = s.toList)
    (hr : recognize g A s.toList = some b) : b = true :=
  (recognize_inLang h0 hA hr).2 (checkTree_sound g A s t h)

/-- a string rejected by the recognizer has no derivation tree at all -/
theorem reject_no_tree (g : Grammar) (A : String) (s : String)
    (h0 : isNT g "" = false) (hA : isNT g A = true) (hr : recognize g A s.toList = some false) :
    ¬ ∃ t : DTree, t.valid g = true ∧ t.closed = true ∧ t.sym = A ∧ t.yieldC g = s.toList := by
  rintro ⟨t, h⟩
  exact Bool.false_ne_true (checkTree_recognize g A s t false h0 hA h hr)

/-! non-vacuity: a nullable, left-recursive, ambiguous grammar -/
def gEx : Grammar := [("<s>", [["<s>", "<s>"], ["a"], []])]
example : recognize gEx "<s>" "aaa".toList = some true ∧ recognize gEx "<s>" "ab".toList = some false := by decide +kernel
example : isNT gEx "" = false ∧ isNT gEx "<s>" = true := by decide +kernel

end IslaVerif.C10
