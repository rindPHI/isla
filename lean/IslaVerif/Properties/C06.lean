import IslaVerif.Proofs.Open
/-
C06 — three-valued verdicts on partial trees never contradict any completion.

Proved for EVERY grammar, partial tree, completion (`completes g t t'`), environment and formula: a
definite answer of the conservative evaluator `evalOpen` (Model/Open.lean) is the answer of the
reference evaluator — hence the truth value of the specification `Sat` — on the completion.  The
real evaluator's own might-match logic is NOT modelled; its definite verdicts are compared with the
verified reference on sampled completions (see c06.py).
-/
namespace IslaVerif.C06
open Sem

/-- a definite verdict on the partial tree is the reference verdict on every closed completion -/
theorem evalOpen_stable (w : World) (t' : DTree) (h0 : Grammar.isNT w.g "" = false)
    (hc : completes w.g w.root t' = true) (β : Env) (f : Fm) (b : Bool) (h : evalOpen w β f = some b) :
    evalRef (w.withRoot t') β f = some b :=
  let ⟨hp, _, hv⟩ := completes_spec hc
  evalOpen_stable_aux w t' h0 hp hv β f b h

/-- … and therefore the truth value of the specification on every closed completion -/
theorem evalOpen_sat (w : World) (t' : DTree) (h0 : Grammar.isNT w.g "" = false)
    (hc : completes w.g w.root t' = true) (β : Env) (f : Fm) (b : Bool) (h : evalOpen w β f = some b) :
    b = true ↔ Sat (w.withRoot t') β f :=
  evalRef_sound' (w.withRoot t') β f b (evalOpen_stable w t' h0 hc β f b h)

/-- two completions of the same partial tree can never get different verdicts once `evalOpen` is definite -/
theorem completions_agree (w : World) (t1 t2 : DTree) (h0 : Grammar.isNT w.g "" = false)
    (h1 : completes w.g w.root t1 = true) (h2 : completes w.g w.root t2 = true)
    (β : Env) (f : Fm) (b : Bool) (h : evalOpen w β f = some b) :
    (Sat (w.withRoot t1) β f ↔ Sat (w.withRoot t2) β f) :=
  ((evalOpen_sat w t1 h0 h1 β f b h).symm).trans (evalOpen_sat w t2 h0 h2 β f b h)

/-- on a closed tree `evalOpen` never disagrees with the reference evaluator -/
theorem evalOpen_closed (w : World) (h0 : Grammar.isNT w.g "" = false) (hv : w.root.valid w.g = true)
    (hcl : w.root.closed = true) (β : Env) (f : Fm) (b : Bool) (h : evalOpen w β f = some b) :
    evalRef w β f = some b := by
  -- the case `t' = w.root` of `evalOpen_stable`
  have hc : completes w.g w.root w.root = true := by
    simp only [completes, DTree.idPrefixOf_refl', hcl, hv, Bool.and_self]
  have := evalOpen_stable w w.root h0 hc β f b h
  rwa [withRoot_self] at this

/-- a definite TRUE on a partial tree: EVERY closed completion satisfies the constraint -/
theorem evalOpen_true_all (w : World) (h0 : Grammar.isNT w.g "" = false) (β : Env) (f : Fm)
    (h : evalOpen w β f = some true) :
    ∀ t', completes w.g w.root t' = true → Sat (w.withRoot t') β f :=
  fun t' hc => Decides.of_true (evalOpen_sat w t' h0 hc β f) h

/-- a definite FALSE on a partial tree: NO closed completion satisfies the constraint (the solver may
discard the state) -/
theorem evalOpen_false_none (w : World) (h0 : Grammar.isNT w.g "" = false) (β : Env) (f : Fm)
    (h : evalOpen w β f = some false) :
    ∀ t', completes w.g w.root t' = true → ¬ Sat (w.withRoot t') β f :=
  fun t' hc => Decides.of_false (evalOpen_sat w t' h0 hc β f) h

/-! non-vacuity: `forall <d> d in start: (= d "1")` on `<start>(<d>("1"), <d>?)` is undecided, on
`<start>(<d>("0"), <d>?)` it is FALSE; that tree has a completion, and `""` is no nonterminal -/
def gEx : Grammar := [("<start>", [["<d>", "<d>"]]), ("<d>", [["0"], ["1"]])]
def phi : Fm := .all "d" "<d>" "start" none (.smt (.app "eq" [.var "d", .str ['1']]))
def wOf (t : DTree) : World := { g := gEx, root := t, isNT := fun s => s.startsWith "<", intBound := 4 }
def t1o : DTree := .node 0 "<start>" [.node 1 "<d>" [.node 2 "1" []], .openLeaf 3 "<d>"]
def t0o : DTree := .node 0 "<start>" [.node 1 "<d>" [.node 2 "0" []], .openLeaf 3 "<d>"]
def t01 : DTree := .node 0 "<start>" [.node 1 "<d>" [.node 2 "0" []], .node 3 "<d>" [.node 4 "1" []]]
example : evalOpen (wOf t1o) [("start", .path [])] phi = none := by decide +kernel
example : evalOpen (wOf t0o) [("start", .path [])] phi = some false := by decide +kernel
example : completes gEx t0o t01 = true ∧ Grammar.isNT gEx "" = false := by decide +kernel

end IslaVerif.C06
