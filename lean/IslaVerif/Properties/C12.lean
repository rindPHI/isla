import IslaVerif.Proofs.TreeOps
import IslaVerif.Proofs.Derivation
/-
C12 — fuzzer expansions and mutations produce valid trees of the same kind.

The fuzzer's three-phase cost strategy and the mutator's random choices only SELECT which open
leaf is expanded by which alternative, which subtree is replaced or which two subtrees are swapped;
the theorems hold for EVERY such selection.  The outputs of the real `expand_tree` / `Mutator.mutate`
are certified by the checkers proved sound below.
-/
namespace IslaVerif.C12
open DTree Grammar

/-- mutation by replacement (`replace_subtree_randomly`, `generalize_subtree`): replacing a subtree by a
valid tree with the same symbol keeps validity and the root -/
theorem replace_ok (g : Grammar) (p : Path) (t u old t' : DTree) (hv : t.valid g = true) (hu : u.valid g = true)
    (hg : t.get p = some old) (hs : old.sym = u.sym) (hr : t.replace p u = some t') :
    t'.valid g = true ∧ t'.sym = t.sym := by
  revert hv hg
  refine replace_ind (fun t _ hg => ?_) (fun i s ks j p k' hj _ ih hv hg => ?_) hr
  · cases hg; exact ⟨hu, hs.symm⟩
  · rw [get_node_cons, List.getElem?_eq_getElem hj] at hg
    obtain ⟨hk'v, hk's⟩ := ih (valid_kid (List.getElem_mem hj) hv) hg
    rw [valid_node_iff] at hv ⊢
    -- the symbols of the children are the list they were
    rw [List.map_set, hk's, ← List.map_set, List.set_getElem_self]
    obtain ⟨halt, hkids⟩ := hv
    refine ⟨⟨Or.inr ?_, fun k hm => ?_⟩, rfl⟩
    · -- `ks` has a `j`-th element, so the node is expanded by an alternative
      exact halt.resolve_left fun h => absurd hj (h.2 ▸ Nat.not_lt_zero j)
    · rcases List.mem_or_eq_of_mem_set hm with hm | rfl
      · exact hkids k hm
      · exact hk'v

/-- mutation by swapping (`swap_subtrees`): same symbol, neither position below the other -/
theorem swap_ok (g : Grammar) (t t' a b : DTree) (p q : Path)
    (hv : t.valid g = true) (ha : t.get p = some a) (hb : t.get q = some b) (hsym : a.sym = b.sym)
    (hpq : ¬ p <+: q) (hqp : ¬ q <+: p) (hs : swap t p q = some t') :
    t'.valid g = true ∧ t'.sym = t.sym := by
  simp only [swap, ha, hb] at hs
  cases h1 : t.replace p b with
  | none => rw [h1] at hs; cases hs
  | some t1 =>
    rw [h1] at hs
    obtain ⟨v1, s1⟩ := replace_ok g p t b a t1 hv (valid_get g q t b hv hb) ha hsym h1
    have hq1 : t1.get q = some b := by rw [replace_get_disjoint t t1 b p q h1 hpq hqp]; exact hb
    obtain ⟨v2, s2⟩ := replace_ok g q t1 a b t' v1 (valid_get g p t a hv ha) hq1 hsym.symm hs
    exact ⟨v2, s2.trans s1⟩

/-- one expansion of an open leaf by an alternative of its symbol -/
theorem expandAt_ok (g : Grammar) (t t' : DTree) (p : Path) (alt : List String) (ids : List Nat)
    (i : Nat) (s : String) (as : List (List String))
    (hv : t.valid g = true) (hg : t.get p = some (openLeaf i s)) (hs : alts g s = some as) (ha : alt ∈ as)
    (h0 : isNT g "" = false) (he : expandAt g t p alt ids = some t') :
    t'.valid g = true ∧ t'.sym = t.sym ∧ idPrefixOf t t' = true := by
  simp only [expandAt, hg] at he
  obtain ⟨h1, h2⟩ := replace_ok g p t _ _ t' hv (valid_altNode g i s alt ids as hs ha h0) hg rfl he
  exact ⟨h1, h2, idPrefixOf_replace p t _ t' i s hg rfl rfl he⟩

/-- ANY sequence of expansion steps (every random choice, every strategy) keeps validity and the
root and has the input as identity-preserving prefix -/
theorem expandRun_ok (g : Grammar) (h0 : isNT g "" = false)
    (steps : List (Path × List String × List Nat)) (t : DTree) (hv : t.valid g = true) (hs : StepsOk g t steps) :
    (expandRun g t steps).valid g = true ∧ (expandRun g t steps).sym = t.sym ∧
    idPrefixOf t (expandRun g t steps) = true := by
  induction steps generalizing t with
  | nil => exact ⟨hv, rfl, idPrefixOf_refl' t⟩
  | cons st rest ih =>
    obtain ⟨p, alt, ids⟩ := st
    rw [StepsOk] at hs
    rw [expandRun]
    cases he : expandAt g t p alt ids with
    | none =>
      rw [he] at hs
      exact ih t hv hs
    | some t' =>
      rw [he] at hs
      obtain ⟨⟨i, s, as, hg, hs', ha⟩, hok⟩ := hs
      obtain ⟨h1, h2, h3⟩ := expandAt_ok g t t' p alt ids i s as hv hg hs' ha h0 he
      obtain ⟨r1, r2, r3⟩ := ih t' h1 hok
      exact ⟨r1, r2.trans h2, idPrefixOf_trans _ _ _ h3 r3⟩

/-- the third clause of `expandRun_ok`, declaratively -/
theorem idPrefixOf_iff (a b : DTree) : idPrefixOf a b = true ↔ IdPrefix a b := idPrefixOf_iff' a b

/-- from `expandRun_ok` to `completionCheck`: a tree that has the input as identity-preserving prefix passes
the embedding clause of the completion checker (which does not ask for the identities of filled leaves) -/
theorem idPrefix_embeds (a b : DTree) (h : IdPrefix a b) : Embeds a b := by
  induction h with
  | leaf i s b _ h2 => exact .hole i s b h2
  | node i s ks ks' hl _ ih => exact .node i s ks ks' hl ih

theorem closed_iff_no_open (t : DTree) : t.closed = true ↔ t.hasOpen = false := closed_iff t

/-- the checker for completions: an accepted result is a closed derivation tree of the grammar in
which every expanded part of the input is unchanged -/
theorem completionCheck_sound (g : Grammar) (t r : DTree) (h : completionCheck g t r = true) :
    r.valid g = true ∧ r.closed = true ∧ Embeds t r ∧ r.sym = t.sym := by
  simp only [completionCheck, Bool.and_eq_true] at h
  exact ⟨h.1.1, h.1.2, (embedsAt_iff' t r).1 h.2, embedsAt_sym_eq t r h.2⟩

/-- the checker for mutations: closed derivation tree with the same root symbol -/
theorem mutationCheck_sound (g : Grammar) (t r : DTree) (h : mutationCheck g t r = true) :
    r.valid g = true ∧ r.closed = true ∧ r.sym = t.sym := by
  simp only [mutationCheck, Bool.and_eq_true, beq_iff_eq] at h
  exact ⟨h.1.1, h.1.2, h.2⟩

/-- the string of an accepted fuzzer completion / mutation result is a word of the language of the
input's root symbol (so it is accepted by the verified recognizer of C10) -/
theorem completionCheck_inLang (g : Grammar) (t r : DTree) (h : completionCheck g t r = true) :
    C10.InLang g t.sym (r.yieldC g) := by
  obtain ⟨h1, h2, _, h4⟩ := completionCheck_sound g t r h
  exact ⟨r, h1, h2, h4, rfl⟩

theorem mutationCheck_inLang (g : Grammar) (t r : DTree) (h : mutationCheck g t r = true) :
    C10.InLang g t.sym (r.yieldC g) := by
  obtain ⟨h1, h2, h3⟩ := mutationCheck_sound g t r h
  exact ⟨r, h1, h2, h3, rfl⟩

/-! non-vacuity: a run of three steps, one an ε-expansion, closes the tree and passes the completion checker -/
def gEx : Grammar := [("<s>", [["<a>"], ["<a>", "<s>"]]), ("<a>", [["x"], []])]
def t0 : DTree := .node 1 "<s>" [.openLeaf 2 "<a>", .openLeaf 3 "<s>"]
def steps : List (Path × List String × List Nat) := [([1], ["<a>"], [4]), ([0], [], [5]), ([1, 0], ["x"], [6])]
example : (expandRun gEx t0 steps).closed = true ∧ completionCheck gEx t0 (expandRun gEx t0 steps) = true := by decide +kernel
example : isNT gEx "" = false ∧ t0.valid gEx = true := by decide +kernel

end IslaVerif.C12
