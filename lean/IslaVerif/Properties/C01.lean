import IslaVerif.Model.Certify
import IslaVerif.Proofs.Sem
import IslaVerif.Properties.C10
/-
C01 — every solver solution is grammar-valid and satisfies the constraint.

The solver is a cost-guided search around Z3; it is not modelled.  What is proved is the
*certifier* through which every tree returned by the real `solve()` is passed: acceptance implies
each clause of the property, for every grammar, formula and tree.
-/
namespace IslaVerif.C01
open Sem

/-- an accepted tree is a closed derivation tree of the grammar rooted in the requested start
symbol, its string is in the language of that symbol, and it satisfies the constraint -/
theorem certify_sound (w : World) (startSym const : String) (f : Fm) (h : certify w startSym const f = true) :
    w.root.valid w.g = true ∧ w.root.closed = true ∧ w.root.sym = startSym ∧
    C10.InLang w.g startSym (w.root.yieldC w.g) ∧ Sat w [(const, Bind.path [])] f := by
  simp only [certify, certFlags, Bool.and_eq_true, beq_iff_eq] at h
  obtain ⟨⟨⟨hv, hc⟩, hr⟩, he⟩ := h
  exact ⟨hv, hc, hr, ⟨w.root, hv, hc, hr, rfl⟩, Decides.of_true (evalRef_sound' w _ f) he⟩

/-- rejection for the fourth clause with verdict `some false` is a genuine violation, not an artefact of the
certifier -/
theorem reject_false (w : World) (const : String) (f : Fm)
    (h : evalRef w [(const, Bind.path [])] f = some false) : ¬ Sat w [(const, Bind.path [])] f :=
  Decides.of_false (evalRef_sound' w _ f) h

theorem certify_iff_flags (w : World) (startSym const : String) (f : Fm) :
    certify w startSym const f = true ↔
      (certFlags w startSym const f).valid = true ∧ (certFlags w startSym const f).closed = true ∧
      (certFlags w startSym const f).rootOk = true ∧ (certFlags w startSym const f).verdict = some true := by
  simp only [certify, Bool.and_eq_true, beq_iff_eq, and_assoc]

/-- solutions always re-parse: whenever the verified recognizer answers on the string of a certified tree, it
answers `true` -/
theorem certified_recognized (w : World) (startSym const : String) (f : Fm) (b : Bool)
    (h : certify w startSym const f = true)
    (h0 : Grammar.isNT w.g "" = false) (hA : Grammar.isNT w.g startSym = true)
    (hr : Rec.recognize w.g startSym (w.root.yieldC w.g) = some b) : b = true :=
  (C10.recognize_inLang h0 hA hr).2 (certify_sound w startSym const f h).2.2.2.1

/-- a certified solution of `φ` is never a solution of `not φ` -/
theorem certified_not_neg (w : World) (startSym const : String) (f : Fm)
    (h : certify w startSym const f = true) : ¬ Sat w [(const, Bind.path [])] (.neg f) :=
  fun hn => hn (certify_sound w startSym const f h).2.2.2.2

/-! non-vacuity: the certifier accepts a satisfying tree and rejects a violating / an open one -/
def gEx : Grammar := [("<start>", [["<d>", "<d>"]]), ("<d>", [["0"], ["1"]])]
def good : DTree := .node 0 "<start>" [.node 1 "<d>" [.node 2 "1" []], .node 3 "<d>" [.node 4 "1" []]]
def bad : DTree := .node 0 "<start>" [.node 1 "<d>" [.node 2 "1" []], .node 3 "<d>" [.node 4 "0" []]]
def opn : DTree := .node 0 "<start>" [.node 1 "<d>" [.node 2 "1" []], .openLeaf 3 "<d>"]
def phi : Fm := .all "d" "<d>" "start" none (.smt (.app "eq" [.var "d", .str ['1']]))
def wOf (t : DTree) : World := { g := gEx, root := t, isNT := fun s => s.startsWith "<", intBound := 4 }
example : certify (wOf good) "<start>" "start" phi = true := by decide +kernel
example : certify (wOf bad) "<start>" "start" phi = false := by decide +kernel
example : certify (wOf opn) "<start>" "start" phi = false := by decide +kernel

end IslaVerif.C01
