import IslaVerif.Proofs.Bnf
/-
C11 — BNF grammars survive printing and re-parsing: terminals keep their meaning.
The three tables (escape table of `unparse_grammar`, the simple escapes and hex digits of
`instantiate_escaped_symbols`) are REGENERATED from /repo's source on every run; the theorems are
re-checked against them (an edit of a table that breaks the round trip breaks these proofs).
-/
namespace IslaVerif.C11
open IslaVerif.Bnf

/-- un-escaping inverts escaping for EVERY string of code points (printable, control characters,
quotes, backslashes, non-ASCII, placeholder look-alikes, …) -/
theorem unescape_escape (s : List Nat) : unescape (escapeStr s) = s :=
  unescapeF_escapeStr s _ (length_le_escapeStr s)

/-- the printed form of a terminal is exactly one STRING token of bnf.g4, whatever follows -/
theorem lex_printed (s rest : List Nat) : lexString (printTerminal s ++ rest) = some (escapeStr s, rest) := by
  simp only [printTerminal, List.cons_append, List.append_assoc, lexString]
  exact lexBodyF_escapeStr rest s _ (by simp)

/-- printing a terminal and reading it back yields the same terminal -/
theorem read_print (s rest : List Nat) : readTerminal (printTerminal s ++ rest) = some (s, rest) := by
  simp [readTerminal, lex_printed, unescape_escape]

/-- distinct terminals never print to the same text (so no two different grammars' terminals can be
confused after printing) -/
theorem printTerminal_inj (a b : List Nat) (h : printTerminal a = printTerminal b) : a = b := by
  have ha := read_print a []
  have hb := read_print b []
  rw [h, hb] at ha
  exact (Prod.mk.inj (Option.some.inj ha)).1.symm

theorem escapeStr_inj (a b : List Nat) (h : escapeStr a = escapeStr b) : a = b := by
  rw [← unescape_escape a, ← unescape_escape b, h]

/-- two terminals printed one after the other (an alternative `"a" "b"`) are read back as the same two
terminals, in order, with the remaining text untouched -/
theorem read_print_two (a b rest : List Nat) :
    readTerminal (printTerminal a ++ (printTerminal b ++ rest)) = some (a, printTerminal b ++ rest) ∧
    readTerminal (printTerminal b ++ rest) = some (b, rest) :=
  ⟨read_print a _, read_print b rest⟩

/-! non-vacuity: quote, backslash, newline, NUL, a placeholder look-alike -/
example : unescape (escapeStr [34, 92, 10, 0, 36, 36, 66, 92, 110]) = [34, 92, 10, 0, 36, 36, 66, 92, 110] := by decide +kernel
example : escapeStr [34, 92, 10, 0] = [92, 34, 92, 92, 92, 110, 92, 120, 48, 48] := by decide +kernel

end IslaVerif.C11
