import IslaVerif.Proofs.Sem
/-
C03 — evaluate() / ISLaSolver.check() agree with the ISLa language specification on closed trees.

`evalRef` is the executable reference evaluator that the real `evaluate()` and `check()` are compared with on
every explored (constraint, tree) pair.  The theorems say that this oracle is right: a definite answer of
`evalRef` IS the truth value of the specification `Sat` (Proofs/Sem.lean, transcribed from islaspec.rst), for
every grammar, tree, environment and formula.  (The atoms' own meaning is the subject of C04 / C05 / C20.)
-/
namespace IslaVerif.C03
open Sem

/-- whenever the reference evaluator answers, its answer is the truth value of the specification -/
theorem evalRef_sound (w : World) (β : Env) (f : Fm) (b : Bool) (h : evalRef w β f = some b) :
    b = true ↔ Sat w β f := evalRef_sound' w β f b h

theorem evalRef_true (w : World) (β : Env) (f : Fm) (h : evalRef w β f = some true) : Sat w β f :=
  Decides.of_true (evalRef_sound' w β f) h

theorem evalRef_false (w : World) (β : Env) (f : Fm) (h : evalRef w β f = some false) : ¬ Sat w β f :=
  Decides.of_false (evalRef_sound' w β f) h

/-- the enumerated quantifier domain is exactly "all nodes of the `in` tree labelled with the
quantified nonterminal" — for nodes of any branching degree (no bound on child indices) -/
theorem domain_exact (w : World) (β : Env) (ty inVar : String) (ps : List Path)
    (h : domain w β ty inVar = some ps) (r : Path) :
    r ∈ ps ↔ ∃ p sub q t, β.get inVar = some (.path p) ∧ w.root.get p = some sub ∧
      sub.get q = some t ∧ t.sym = ty ∧ r = p ++ q := by
  obtain ⟨p, sub, hb, hs, _⟩ := domain_eq_some_iff.1 h
  constructor
  · intro hr
    obtain ⟨q, t, hg, hsym, rfl⟩ := (mem_domain hb hs h r).1 hr
    exact ⟨p, sub, q, t, hb, hs, hg, hsym, rfl⟩
  · rintro ⟨p', sub', q, t, hb', hs', hg, hsym, rfl⟩
    exact (mem_domain hb' hs' h _).2 ⟨q, t, hg, hsym, rfl⟩

/-- a universal quantifier over an empty domain holds, whatever its body (the defect repaired by
58e0f75 made the implementation answer FALSE here) -/
theorem forall_vacuous (w : World) (β : Env) (v ty inVar : String) (f : Fm)
    (h : ∀ β', ¬ TreeInst w β v ty inVar β') : Sat w β (.all v ty inVar none f) :=
  fun β' hβ' => absurd hβ' (h β')

/-- an existential quantifier over an empty domain is false, whatever its body -/
theorem exists_empty (w : World) (β : Env) (v ty inVar : String) (f : Fm)
    (h : ∀ β', ¬ TreeInst w β v ty inVar β') : ¬ Sat w β (.ex v ty inVar none f) := by
  rintro ⟨β', hβ', _⟩
  exact h β' hβ'

/-- quantifier duality of the specification, with or without a match expression:
`not forall x: φ` means `exists x: not φ` -/
theorem not_forall_iff (w : World) (β : Env) (v ty inVar : String) (m : Option (List MTree)) (f : Fm) :
    Sat w β (.neg (.all v ty inVar m f)) ↔ Sat w β (.ex v ty inVar m (.neg f)) := by
  cases m <;> exact Classical.not_forall.trans (exists_congr fun _ => Classical.not_imp)

theorem not_exists_iff (w : World) (β : Env) (v ty inVar : String) (m : Option (List MTree)) (f : Fm) :
    Sat w β (.neg (.ex v ty inVar m f)) ↔ Sat w β (.all v ty inVar m (.neg f)) := by
  cases m <;> exact not_exists.trans (forall_congr' fun _ => not_and)

/-! non-vacuity: `forall <d> d in start: (= d "1")` and `exists …` on the tree `<start>(<d>("1"), <d>("0"))`;
`forall` over a label that does not occur in the tree -/
def gEx : Grammar := [("<start>", [["<d>", "<d>"]]), ("<d>", [["0"], ["1"]])]
def tEx : DTree := .node 0 "<start>" [.node 1 "<d>" [.node 2 "1" []], .node 3 "<d>" [.node 4 "0" []]]
def wEx : World := { g := gEx, root := tEx, isNT := fun s => s.startsWith "<", intBound := 4 }
def bodyEx : Fm := .smt (.app "eq" [.var "d", .str ['1']])
example : evalRef wEx [("start", .path [])] (.all "d" "<d>" "start" none bodyEx) = some false := by decide +kernel
example : evalRef wEx [("start", .path [])] (.ex "d" "<d>" "start" none bodyEx) = some true := by decide +kernel
example : evalRef wEx [("start", .path [])] (.all "x" "<nope>" "start" none (.smt (.bool false))) = some true := by decide +kernel

end IslaVerif.C03
