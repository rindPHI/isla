import IslaVerif.Model.Agree
import IslaVerif.Properties.C01
/-
C18 — check, parse, repair and mutate agree with the constraint and with each other.

`parseOutcome` / `checkStr` (Model/Agree.lean) compose the verified recognizer (C10), the tree
checker and the reference evaluator (C03).  The theorems tie each expected answer to the
specification: membership in the grammar's language (`C10.InLang`) and satisfaction (`Sat`).
The real `ISLaSolver.check / parse` are compared with these compositions; results of `repair`
and `mutate` go through the certifier of C01 (`certify_sound`).
-/
namespace IslaVerif.C18
open Sem

variable (g : Grammar) (isNT : String → Bool) (bound : Nat) (f : Fm) (const : String)

/-- "returns a tree": the string is in the language and the parsed tree satisfies the constraint -/
theorem parse_ok (s : List Char) (t? : Option DTree) (h0 : Grammar.isNT g "" = false) (hS : Grammar.isNT g "<start>" = true)
    (h : parseOutcome g isNT bound f const s t? = .ok) :
    C10.InLang g "<start>" s ∧ ∃ t, t? = some t ∧ t.valid g = true ∧ t.closed = true ∧ t.yieldC g = s ∧
      Sat { g := g, root := t, isNT := isNT, intBound := bound } [(const, Bind.path [])] f := by
  unfold parseOutcome at h
  split at h -- the recognizer's answer: `none`, `some false`, `some true`
  · cases h
  · cases h
  · rename_i hr
    split at h -- the tree handed in: `none`, `some t`
    · cases h
    · rename_i t
      split at h -- the faithfulness test on `t`
      · rename_i hc
        simp only [Bool.and_eq_true, beq_iff_eq] at hc
        split at h -- the evaluator's verdict: `some true`, `some false`, `none`
        · rename_i he
          exact ⟨(C10.recognize_inLang h0 hS hr).1 rfl, t, rfl, hc.1.1.1, hc.1.1.2, hc.2,
            Decides.of_true (evalRef_sound' _ _ f) he⟩
        · cases h
        · cases h
      · cases h

/-- "SyntaxError": the string is not in the grammar's language -/
theorem parse_syntaxError (s : List Char) (t? : Option DTree) (h0 : Grammar.isNT g "" = false) (hS : Grammar.isNT g "<start>" = true)
    (h : parseOutcome g isNT bound f const s t? = .syntaxError) : ¬ C10.InLang g "<start>" s := by
  unfold parseOutcome at h
  split at h
  · cases h
  · rename_i hr
    exact fun hin => Bool.false_ne_true ((C10.recognize_inLang h0 hS hr).2 hin)
  · split at h
    · cases h
    · split at h
      · split at h <;> cases h
      · cases h

/-- "SemanticError": the string is in the language, but its parse tree violates the constraint -/
theorem parse_semanticError (s : List Char) (t? : Option DTree) (h0 : Grammar.isNT g "" = false) (hS : Grammar.isNT g "<start>" = true)
    (h : parseOutcome g isNT bound f const s t? = .semanticError) :
    C10.InLang g "<start>" s ∧ ∃ t, t? = some t ∧ t.yieldC g = s ∧
      ¬ Sat { g := g, root := t, isNT := isNT, intBound := bound } [(const, Bind.path [])] f := by
  unfold parseOutcome at h
  split at h
  · cases h
  · cases h
  · rename_i hr
    split at h
    · cases h
    · rename_i t
      split at h
      · rename_i hc
        simp only [Bool.and_eq_true, beq_iff_eq] at hc
        split at h
        · cases h
        · rename_i he
          exact ⟨(C10.recognize_inLang h0 hS hr).1 rfl, t, rfl, hc.2,
            Decides.of_false (evalRef_sound' _ _ f) he⟩
        · cases h
      · cases h

/-- `checkStr` is a table on the five outcomes -/
theorem checkStr_true_iff (s : List Char) (t? : Option DTree) :
    checkStr g isNT bound f const s t? = some true ↔ parseOutcome g isNT bound f const s t? = .ok := by
  unfold checkStr
  generalize parseOutcome g isNT bound f const s t? = o
  cases o <;> decide

theorem checkStr_false_iff (s : List Char) (t? : Option DTree) :
    checkStr g isNT bound f const s t? = some false ↔
      (parseOutcome g isNT bound f const s t? = .syntaxError ∨ parseOutcome g isNT bound f const s t? = .semanticError) := by
  unfold checkStr
  generalize parseOutcome g isNT bound f const s t? = o
  cases o <;> decide

/-- `check(s) = True` means: `s` is a word of the grammar and its parse tree satisfies the constraint -/
theorem checkStr_true_sound (s : List Char) (t? : Option DTree) (h0 : Grammar.isNT g "" = false)
    (hS : Grammar.isNT g "<start>" = true) (h : checkStr g isNT bound f const s t? = some true) :
    C10.InLang g "<start>" s ∧ ∃ t, t? = some t ∧ t.valid g = true ∧ t.closed = true ∧ t.yieldC g = s ∧
      Sat { g := g, root := t, isNT := isNT, intBound := bound } [(const, Bind.path [])] f :=
  parse_ok g isNT bound f const s t? h0 hS ((checkStr_true_iff g isNT bound f const s t?).1 h)

/-- `check` and `parse` can never disagree: a definite `check` is `True` exactly when `parse` returns
a tree (for `False` and the two errors: `checkStr_false_iff`) -/
theorem check_parse_agree (s : List Char) (t? : Option DTree) (b : Bool)
    (h : checkStr g isNT bound f const s t? = some b) :
    (b = true ↔ parseOutcome g isNT bound f const s t? = .ok) := by
  rw [← checkStr_true_iff, h, Option.some.injEq]

/-- results of `repair` / `mutate` (and `check` on a tree) are judged by the certifier of C01 -/
theorem certified_result (w : World) (startSym const : String) (f : Fm) (h : certify w startSym const f = true) :
    w.root.valid w.g = true ∧ w.root.closed = true ∧ w.root.sym = startSym ∧
    C10.InLang w.g startSym (w.root.yieldC w.g) ∧ Sat w [(const, Bind.path [])] f :=
  C01.certify_sound w startSym const f h

/-! non-vacuity: each of the three outcomes occurs, for `forall <d> d in start: (= d "1")` on the
strings `11`, `10` and `1` -/
def gEx : Grammar := [("<start>", [["<d>", "<d>"]]), ("<d>", [["0"], ["1"]])]
def phi : Fm := .all "d" "<d>" "start" none (.smt (.app "eq" [.var "d", .str ['1']]))
def t11 : DTree := .node 0 "<start>" [.node 1 "<d>" [.node 2 "1" []], .node 3 "<d>" [.node 4 "1" []]]
def t10 : DTree := .node 0 "<start>" [.node 1 "<d>" [.node 2 "1" []], .node 3 "<d>" [.node 4 "0" []]]
example : parseOutcome gEx (fun s => s.startsWith "<") 4 phi "start" "11".toList (some t11) = .ok := by decide +kernel
example : parseOutcome gEx (fun s => s.startsWith "<") 4 phi "start" "10".toList (some t10) = .semanticError := by decide +kernel
example : parseOutcome gEx (fun s => s.startsWith "<") 4 phi "start" "1".toList none = .syntaxError := by decide +kernel

end IslaVerif.C18
