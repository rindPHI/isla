import IslaVerif.Proofs.Cache
import IslaVerif.Proofs.TreeQueries
import IslaVerif.Proofs.TrieKeys
/-
C16 — derivation-tree operations keep paths, strings, openness and identity consistent: the cached openness
flag is right in every state that operations reach from a constructor-built tree (`cacheOk_reachable`), and
on plain trees `get`, `paths`, `replace`, the string, node search, the trie view and its keys agree with
each other.
-/
namespace IslaVerif.C16
open IslaVerif.PTree IslaVerif.DTree

theorem cacheOk_constructor (d : DTree) : cacheOk (ofDTree d) = true := cacheOk_ofDTree d

theorem cacheOk_step (isNT : String → Bool) (t t' : PTree) (op : Op) (r : Option Bool)
    (ht : cacheOk t = true) (h : applyOp isNT t op = some (t', r)) : cacheOk t' = true := by
  cases op with
  | replace p d b =>
    obtain ⟨t2, hr, h⟩ := Option.map_eq_some_iff.1 h
    cases h
    exact cacheOk_replacePath t _ _ p b ht (cacheOk_constructor d) hr
  | isOpen p =>
    obtain ⟨⟨b, t2⟩, hr, h⟩ := Option.map_eq_some_iff.1 h
    cases h
    exact (cacheOk_isOpenAt t _ p _ ht hr).1
  | substitute m =>
    cases h
    refine cacheOk_substitute t _ ht fun x hx => ?_
    obtain ⟨⟨i, d⟩, _, rfl⟩ := List.mem_map.1 hx
    exact cacheOk_constructor d
  | expand p alt ids =>
    obtain ⟨t2, hr, h⟩ := Option.map_eq_some_iff.1 h
    cases h
    exact cacheOk_expandAt isNT t _ p alt ids ht hr

/-- every state reachable from a constructor-built tree by any sequence of
replace_path / is_open / substitute / expansion operations has consistent caches -/
theorem cacheOk_reachable (isNT : String → Bool) (d : DTree) (ops : List Op) :
    cacheOk (runOps isNT (ofDTree d) ops) = true := by
  suffices ∀ t, cacheOk t = true → cacheOk (runOps isNT t ops) = true from this _ (cacheOk_constructor d)
  induction ops with
  | nil => exact fun t ht => ht
  | cons op ops ih =>
    intro t ht
    rw [runOps]
    split
    · exact ih t ht
    · rename_i t2 r hop
      exact ih t2 (cacheOk_step isNT t t2 op r ht hop)

/-- hence `is_open()` is correct in every reachable state: open exactly when some leaf is unexpanded -/
theorem isOpen_correct (t : PTree) (h : cacheOk t = true) :
    (isOpenOp t).1 = (erase t).hasOpen ∧ cacheOk (isOpenOp t).2 = true ∧ erase (isOpenOp t).2 = erase t :=
  isOpenOp_correct t h

theorem hasOpen_iff (t : DTree) : t.hasOpen = true ↔ ∃ pu ∈ t.paths, pu.2.isOpenLeaf = true :=
  (hasOpen_iff_get t).trans ((any_paths_iff t fun pu => pu.2.isOpenLeaf).symm.trans List.any_eq_true)

/-- the string of a tree is the concatenation of its leaves -/
theorem yield_eq_leaves (isNT : String → Bool) (t : DTree) :
    t.yieldOpen isNT = joinStrs (t.leaves.map (fun pu => leafStr isNT pu.2)) := yieldOpen_eq isNT t

theorem paths_iff_get (t : DTree) (r : Path) (x : DTree) : (r, x) ∈ t.paths ↔ t.get r = some x :=
  DTree.mem_paths_iff t r x

theorem findNode_spec (t : DTree) (hu : uniqueIds t) (i : Nat) (p : Path) :
    t.findNode i = some p ↔ ∃ u, t.get p = some u ∧ u.id = i := by
  unfold DTree.findNode
  simp only [Option.map_eq_some_iff]
  constructor
  · rintro ⟨⟨p', u⟩, hf, rfl⟩
    have h1 := List.find?_some hf
    have h2 := List.mem_of_find?_eq_some hf
    exact ⟨u, (mem_paths_iff t p' u).1 h2, beq_iff_eq.1 h1⟩
  · rintro ⟨u, hg, rfl⟩
    have hm := (mem_paths_iff t p u).2 hg
    cases hf : t.paths.find? (fun pu => pu.2.id == u.id) with
    | none =>
      rw [List.find?_eq_none] at hf
      exact absurd (beq_iff_eq.2 rfl) (hf _ hm)
    | some x =>
      have h1 := List.find?_some hf
      have h2 := List.mem_of_find?_eq_some hf
      have := nodup_map_inj (fun pu : Path × DTree => pu.2.id) t.paths hu x (p, u) h2 hm (beq_iff_eq.1 h1)
      subst this
      exact ⟨_, rfl, rfl⟩

/-- the sub-trie rooted at any path lists exactly that subtree's own paths, for any branching degree -/
theorem trieItems_eq (t sub : DTree) (r : Path) (h : t.get r = some sub) : t.trieItems r = sub.paths := by
  unfold trieItems
  rw [filter_paths_prefix t sub r h]
  simp [Function.comp_def]

/-! trie keys: total up to the bound of the generated constants, invertible, inside datrie's alphabet,
prefix-preserving (these are the obligations re-checked when src/isla/trie.py changes) -/
theorem encodeKey_total (p : Path) (h : ∀ i ∈ p, i < keyBound) : ∃ k, PTree.encodeKey p = some k := by
  rw [encodeKey_eq]
  suffices ∃ k, encFlat p = some k from this.elim fun k hk => ⟨_, by rw [hk]; rfl⟩
  induction p with
  | nil => exact ⟨_, rfl⟩
  | cons i p ih =>
    obtain ⟨k, hk⟩ := ih fun j hj => h j (List.mem_cons_of_mem _ hj)
    obtain ⟨c, hc⟩ := encodeElem_isSome (h i List.mem_cons_self)
    exact ⟨c ++ k, by rw [encFlat, hc, hk]⟩

theorem decode_encode (p : Path) (k : List Nat) (h : PTree.encodeKey p = some k) : PTree.decodeKey k = some p := by
  obtain ⟨cs, hcs, rfl⟩ := encodeKey_some h
  have hfil : cs.filter (· != 1) = cs :=
    List.filter_eq_self.2 fun c hc => bne_iff_ne.2 (Nat.ne_of_gt (encFlat_range p cs hcs c hc).1)
  rw [decodeKey, hfil, decodeChars_encFlat p cs hcs _ (Nat.le_refl _)]

theorem encodeKey_alphabet (p : Path) (k : List Nat) (h : PTree.encodeKey p = some k) :
    ∀ c ∈ k, Generated.Trie.alphabetLo ≤ c ∧ c ≤ Generated.Trie.alphabetHi := by
  obtain ⟨cs, hcs, rfl⟩ := encodeKey_some h
  obtain ⟨_, h1, _, h3, h4⟩ := trie_consts
  intro c hc
  rcases List.mem_cons.1 hc with rfl | hc
  · -- the leading 1: `alphabetLo ≤ 1 < singleLimit + 2 ≤ escapeChar ≤ alphabetHi`
    omega
  · -- a code character: `alphabetLo ≤ 1 < 2 ≤ c`
    have := encFlat_range p cs hcs c hc
    omega

theorem encodeKey_prefix (p q : Path) (k k' : List Nat)
    (hp : PTree.encodeKey p = some k) (hq : PTree.encodeKey q = some k') : p <+: q ↔ k <+: k' := by
  obtain ⟨a, ha, rfl⟩ := encodeKey_some hp
  obtain ⟨b, hb, rfl⟩ := encodeKey_some hq
  rw [List.cons_prefix_cons, encFlat_prefix p q a b ha hb]
  exact ⟨fun h => ⟨rfl, h⟩, And.right⟩

/-- forgetting the flags commutes with `replace_path`, so what follows about `DTree.replace` holds of the
cached trees. Only without `retain_id`: with it the replacement is rebuilt under the identity of the node it
replaces, and the right-hand side would have to say `erase r` with that identity. -/
theorem replace_erase (t r t' : PTree) (p : Path) (h : replacePath t p r false = some t') :
    DTree.replace (erase t) p (erase r) = some (erase t') := by
  rw [replacePath_eq] at h
  obtain ⟨_, _, h⟩ := Option.bind_eq_some_iff.1 h
  exact erase_replaceRaw p t r t' h

theorem replace_get_self (t t' u : DTree) (p : Path) (h : t.replace p u = some t') : t'.get p = some u :=
  List.append_nil p ▸ replace_get_below t t' u p [] h

theorem replace_get_disjoint (t t' u : DTree) (p q : Path) (h : t.replace p u = some t')
    (h1 : ¬ p <+: q) (h2 : ¬ q <+: p) : t'.get q = t.get q :=
  DTree.replace_get_disjoint t t' u p q h h1 h2

theorem replace_get_above (t t' u : DTree) (p q : Path) (h : t.replace p u = some t')
    (h1 : q <+: p) (h2 : q ≠ p) :
    ∃ a b, t.get q = some a ∧ t'.get q = some b ∧ a.id = b.id ∧ a.sym = b.sym ∧ a.kids.length = b.kids.length := by
  revert q
  refine replace_ind (fun _ q h1 h2 => absurd (List.prefix_nil.1 h1) h2)
    (fun i s ks j p k' hj _ ih q h1 h2 => ?_) h
  cases q with
  | nil => exact ⟨_, _, rfl, rfl, rfl, rfl, (List.length_set ..).symm⟩
  | cons j' q =>
    obtain ⟨rfl, hq⟩ := List.cons_prefix_cons.1 h1
    rw [DTree.get_node_cons, DTree.get_node_cons, List.getElem?_set_self hj, List.getElem?_eq_getElem hj]
    exact ih q hq fun e => h2 (e ▸ rfl)

theorem replace_replace (t t' u v : DTree) (p : Path) (h : t.replace p u = some t') :
    t'.replace p v = t.replace p v := by
  refine replace_ind (fun t => ?_) (fun i s ks j p k' hj _ ih => ?_) h
  · rw [replace_nil, replace_nil]
  · rw [replace_node_cons, replace_node_cons, List.getElem?_set_self hj, List.getElem?_eq_getElem hj,
      Option.bind_some, Option.bind_some, ih]
    simp only [List.set_set]

theorem replace_get_id (t u : DTree) (p : Path) (h : t.get p = some u) : t.replace p u = some t := by
  induction p generalizing t with
  | nil => cases h; exact replace_nil ..
  | cons j p ih =>
    obtain ⟨i, s, ks, hj, rfl, hu⟩ := get_cons_eq_some.1 h
    rw [replace_node_cons, List.getElem?_eq_getElem hj, Option.bind_some, ih _ hu, Option.map_some,
      List.set_getElem_self]

theorem replace_isSome_iff (t u : DTree) (p : Path) : (t.replace p u).isSome ↔ (t.get p).isSome := by
  induction p generalizing t with
  | nil => rw [replace_nil, get_nil]; rfl
  | cons j p ih =>
    cases t with
    | openLeaf i s => rfl
    | node i s ks =>
      rw [replace_node_cons, DTree.get_node_cons]
      cases ks[j]? with
      | none => rfl
      | some k => rw [Option.bind_some, Option.bind_some, Option.isSome_map]; exact ih k

mutual
theorem structEq_hash (hLeaf : String → Nat) (hNode : String → List Nat → Nat) (a b : DTree)
    (h : structEq a b = true) : structHash hLeaf hNode a = structHash hLeaf hNode b :=
  match a, b, h with
  | .openLeaf _ s, .openLeaf _ s', h => congrArg hLeaf (beq_iff_eq.1 h)
  | .node _ s ks, .node _ s' ks', h => by
    obtain ⟨hs, hks⟩ := Bool.and_eq_true_iff.1 h
    rw [structHash, structHash, beq_iff_eq.1 hs, structEq_hash_auxL hLeaf hNode ks ks' hks]
theorem structEq_hash_auxL (hLeaf : String → Nat) (hNode : String → List Nat → Nat) : ∀ (a b : List DTree),
    structEqL a b = true → structHashL hLeaf hNode a = structHashL hLeaf hNode b
  | [], [] => fun _ => rfl
  | k :: ks, k' :: ks' => fun h => by
    obtain ⟨hk, hks⟩ := Bool.and_eq_true_iff.1 h
    rw [structHashL, structHashL, structEq_hash hLeaf hNode k k' hk,
      structEq_hash_auxL hLeaf hNode ks ks' hks]
  | [], _ :: _ => nofun
  | _ :: _, [] => nofun
end

/-! non-vacuity: a tree with an open leaf, built through the constructor; a path element beyond the
single code points -/
def exT : DTree := .node 1 "<s>" [.node 2 "<a>" [.openLeaf 3 "<b>", .node 4 "x" []], .node 5 "<a>" [.node 6 "y" []]]
example : cacheOk (ofDTree exT) = true := by decide +kernel
example : (isOpenOp (ofDTree exT)).1 = true ∧ exT.hasOpen = true := by decide +kernel
example : uniqueIds exT := by unfold uniqueIds; decide +kernel
example : exT.findNode 4 = some [0, 1] ∧ (exT.get [0, 1]).map DTree.id = some 4 := by decide +kernel
example : PTree.encodeKey [0, 300] = some [1, 2, 254, 2, 2, 2, 50] := by decide +kernel
example : (300 : Nat) < keyBound := by decide +kernel

end IslaVerif.C16
