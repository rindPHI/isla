import IslaVerif.Proofs.SemPreds
/-
C20 — library semantic predicates decide their documented relation on concrete (closed) trees.
Numerals are digit lists, most significant digit first; the octal / decimal statements compare the positional
values `posVal 8 o` and `posVal 10 d` (Proofs/SemPreds.lean), not the folds by which the code computes them.
-/
namespace IslaVerif.C20
open IslaVerif.SemPreds

/-- count holds exactly when the needle occurs the given number of times -/
theorem countVerdict_iff (occ : Nat) (target : Int) : countVerdict occ target = true ↔ (occ : Int) = target := by
  unfold countVerdict
  split
  · next h =>
    -- a negative target, or more occurrences than the target: both sides are false
    rw [Bool.or_eq_true, decide_eq_true_eq, decide_eq_true_eq] at h
    exact ⟨nofun, fun e => by omega⟩
  · exact beq_iff_eq

/-- digit generation (`str(n)`, `oct(n)[2:]`) is inverted by positional evaluation, in every base ≥ 2 -/
theorem valDigits_toDigits (b n : Nat) (hb : 2 ≤ b) : valDigits b (toDigits b n) = n :=
  valDigits_toDigitsAux b hb (n + 1) n [] (by omega)

/-- octal_to_decimal (both arguments concrete) holds exactly when the octal digits denote the decimal number -/
theorem octalBoth_iff (o d : List Nat) : octalBoth o d = true ↔ posVal 8 o = posVal 10 d := by
  unfold octalBoth
  rw [valDigits_eq_posVal, valDigits_eq_posVal]; simp

/-- the explicit loop of the "concrete octal" branch computes the base-8 value -/
theorem octSum_eq (ds : List Nat) : octSum ds = posVal 8 ds := by
  unfold octSum
  rw [octLoop_eq, List.reverse_reverse, valDigits_eq_posVal]; simp

/-- the decimal string proposed for a concrete octal denotes the same number -/
theorem octalToDec_correct (o : List Nat) : posVal 10 (octalToDec o) = posVal 8 o := by
  unfold octalToDec
  rw [← valDigits_eq_posVal, valDigits_toDigits 10 _ (by omega), octSum_eq]

/-- the octal string proposed for a concrete decimal denotes the same number and uses octal digits only -/
theorem decToOctal_correct (d : List Nat) : posVal 8 (decToOctal d) = posVal 10 d ∧ ∀ x ∈ decToOctal d, x < 8 := by
  unfold decToOctal
  refine ⟨?_, toDigits_lt 8 _ (by omega)⟩
  rw [← valDigits_eq_posVal, valDigits_toDigits 8 _ (by omega), valDigits_eq_posVal]

theorem octal_roundtrip (o : List Nat) : posVal 8 (decToOctal (octalToDec o)) = posVal 8 o := by
  rw [(decToOctal_correct (octalToDec o)).1, octalToDec_correct]

theorem decimal_roundtrip (d : List Nat) : posVal 10 (octalToDec (decToOctal d)) = posVal 10 d := by
  rw [octalToDec_correct, (decToOctal_correct d).1]

/-- the proposed decimal, put back into the predicate, passes its own acceptance test -/
theorem octalBoth_after_toDec (o : List Nat) : octalBoth o (octalToDec o) = true :=
  (octalBoth_iff o _).2 (octalToDec_correct o).symm

/-- so does the proposed octal -/
theorem octalBoth_after_toOctal (d : List Nat) : octalBoth (decToOctal d) d = true :=
  (octalBoth_iff _ d).2 (decToOctal_correct d).1

/-- crop holds exactly when the argument fits the width -/
theorem crop_true_iff (s : List Char) (w : Nat) : cropM s w = .verdict true ↔ s.length ≤ w := by
  unfold cropM
  split <;> simp [*]

/-- otherwise the replacement is the argument cropped to the width -/
theorem crop_replace (s out : List Char) (w : Nat) (h : cropM s w = .replace out) :
    out = s.take w ∧ out.length = w ∧ w < s.length := by
  unfold cropM at h
  split at h
  · cases h
  · next hw =>
    cases h
    exact ⟨rfl, List.length_take_of_le (Nat.le_of_not_le hw), Nat.lt_of_not_le hw⟩

/-- the justify predicates hold exactly when the argument already has the requested width -/
theorem just_true_iff (lj cr : Bool) (s : List Char) (w : Nat) (c : Char) :
    justM lj cr s w c = .verdict true ↔ s.length = w := by
  rcases Nat.lt_trichotomy s.length w with h | h | h
  · rw [justM_short lj cr c h]; exact iff_of_false nofun (Nat.ne_of_lt h)
  · rw [justM_fit lj cr c h]; exact iff_of_true rfl h
  · rw [justM_long lj cr c h]
    cases cr <;> exact iff_of_false nofun (Nat.ne_of_gt h)

/-- they answer False exactly for an argument that is too long and may not be cropped -/
theorem just_false_iff (lj cr : Bool) (s : List Char) (w : Nat) (c : Char) :
    justM lj cr s w c = .verdict false ↔ (cr = false ∧ w < s.length) := by
  rcases Nat.lt_trichotomy s.length w with h | h | h
  · rw [justM_short lj cr c h]; exact iff_of_false nofun fun e => Nat.lt_asymm h e.2
  · rw [justM_fit lj cr c h]; exact iff_of_false nofun fun e => Nat.ne_of_gt e.2 h
  · rw [justM_long lj cr c h]
    cases cr
    · exact iff_of_true rfl ⟨rfl, h⟩
    · exact iff_of_false nofun fun e => Bool.noConfusion e.1

/-- every proposed replacement has exactly the requested width and is the padded / cropped argument -/
theorem just_replace (lj cr : Bool) (s out : List Char) (w : Nat) (c : Char)
    (h : justM lj cr s w c = .replace out) :
    out.length = w ∧
    (s.length < w →
      (lj = true → out = s ++ List.replicate (w - s.length) c) ∧
      (lj = false → out = List.replicate (w - s.length) c ++ s)) ∧
    (w < s.length → cr = true ∧ (lj = true → out = s.take w) ∧ (lj = false → out = s.drop (s.length - w))) := by
  rcases Nat.lt_trichotomy s.length w with hw | hw | hw
  · rw [justM_short lj cr c hw] at h
    cases h
    exact ⟨padded_length lj c hw, fun _ => ⟨fun hl => by rw [hl]; rfl, fun hl => by rw [hl]; rfl⟩,
      fun hw' => absurd hw' (Nat.lt_asymm hw)⟩
  · rw [justM_fit lj cr c hw] at h; cases h
  · rw [justM_long lj cr c hw] at h
    cases cr
    · cases h
    · cases h
      exact ⟨cropped_length lj hw, fun hw' => absurd hw' (Nat.lt_asymm hw),
        fun _ => ⟨rfl, fun hl => by rw [hl]; rfl, fun hl => by rw [hl]; rfl⟩⟩

/-! non-vacuity: 17 octal is 15 decimal and not the other way round; both conversions; a crop from the left and a
refusal to crop -/
example : octalBoth [1, 7] [1, 5] = true ∧ octalBoth [1, 5] [1, 7] = false := by decide +kernel
example : octalToDec [0, 1, 7] = [1, 5] ∧ decToOctal [1, 5] = [1, 7] := by decide +kernel
example : justM false true "abc".toList 2 '0' = .replace "bc".toList ∧ justM true false "abc".toList 2 '0' = .verdict false := by decide +kernel

end IslaVerif.C20
