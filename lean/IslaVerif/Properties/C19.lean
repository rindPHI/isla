import IslaVerif.Model.Cli
/-
C19 — the command line honours its exit-code contract (decision table of `isla check` / `parse`).
Exit-code constants are regenerated from src/isla/cli.py on every run (Generated/Cli.lean).
-/
namespace IslaVerif.C19
open IslaVerif.Cli

/-- the grammar is found and parses, at least one constraint is given and all of them parse: the case in which
`isla check` gets as far as the input -/
def AllOk (f : Files) : Prop :=
  f.grammar = .ok ∧ f.constraints ≠ [] ∧ (∀ c ∈ f.constraints, c = .ok)

theorem hasMalformed_false_iff (cs : List ConstraintSt) :
    hasMalformed cs = false ↔ ∀ c ∈ cs, c = .ok := by
  induction cs with
  | nil => simp [hasMalformed]
  | cons c cs ih => cases c <;> simp [hasMalformed, ih]

theorem hasMalformed_true_iff (cs : List ConstraintSt) :
    hasMalformed cs = true ↔ ∃ c ∈ cs, c = .malformed := by
  induction cs with
  | nil => simp [hasMalformed]
  | cons c cs ih => cases c <;> simp [hasMalformed, ih]

theorem checkExit_ok (cs : List ConstraintSt) (i : InputSt) (hne : cs ≠ []) :
    checkExit ⟨.ok, cs, i⟩ = if hasMalformed cs then Generated.Cli.dataFormatError else inputExit i := by
  cases cs with
  | nil => exact absurd rfl hne
  | cons c cs => simp [checkExit]

/-- with grammar and constraints fine the input alone decides -/
theorem checkExit_allOk {f : Files} (h : AllOk f) : checkExit f = inputExit f.input := by
  rcases f with ⟨g, cs, i⟩
  obtain ⟨rfl, hne, hall⟩ := h
  rw [checkExit_ok cs i hne, (hasMalformed_false_iff cs).2 hall]
  rfl

/-- otherwise the input is not looked at, and the exit code is one of the two error codes -/
theorem checkExit_not_allOk {f : Files} (h : ¬ AllOk f) :
    checkExit f = Generated.Cli.usageError ∨ checkExit f = Generated.Cli.dataFormatError := by
  rcases f with ⟨g, cs, i⟩
  cases cs with
  | nil => cases g <;> exact .inl rfl
  | cons c cs =>
    cases g with
    | missing | empty => exact .inl rfl
    | malformed => exact .inr rfl
    | ok =>
      rw [checkExit_ok _ i (List.cons_ne_nil c cs)]
      cases hm : hasMalformed (c :: cs)
      · exact absurd ⟨rfl, List.cons_ne_nil c cs, (hasMalformed_false_iff _).1 hm⟩ h
      · exact .inr rfl

theorem inputExit_eq_zero_iff (i : InputSt) : inputExit i = 0 ↔ i = .given true .sat := by
  rcases i with _ | _ | ⟨_ | _, _ | _ | _⟩ <;> decide

/-- exit 0 exactly when grammar and constraints are fine and the single input is in the grammar and
satisfies the conjunction of all constraints -/
theorem check_exit0_iff (f : Files) :
    checkExit f = 0 ↔ AllOk f ∧ f.input = .given true .sat := by
  by_cases h : AllOk f
  · rw [checkExit_allOk h, inputExit_eq_zero_iff]; exact (and_iff_right h).symm
  · constructor
    · intro h0
      rcases checkExit_not_allOk h with e | e
      · rw [h0] at e; cases e
      · rw [h0] at e; cases e
    · exact fun h' => absurd h'.1 h

/-- with grammar and constraints fine and exactly one input, every other case exits 1 -/
theorem check_exit1 (f : Files) (h : AllOk f) (inG : Bool) (v : Verdict) (hi : f.input = .given inG v)
    (hn : inG = false ∨ v = .unsat) : checkExit f = 1 := by
  rw [checkExit_allOk h, hi]
  rcases hn with rfl | rfl
  · rfl
  · cases inG <;> rfl

/-- a constraint that parses but cannot be evaluated on the (member) input ends with the data-format
code as well: no traceback -/
theorem not_evaluable_exit (f : Files) (h : AllOk f) (hi : f.input = .given true .error) :
    checkExit f = Generated.Cli.dataFormatError := by
  rw [checkExit_allOk h, hi]; rfl

/-- a malformed grammar or constraint (everything needed being present) ends with the data-format code -/
theorem malformed_exit (f : Files) (hc : f.constraints ≠ [])
    (hm : f.grammar = .malformed ∨ (f.grammar = .ok ∧ ∃ c ∈ f.constraints, c = .malformed)) :
    checkExit f = Generated.Cli.dataFormatError := by
  unfold checkExit
  rw [List.isEmpty_eq_false_iff.2 hc]
  rcases hm with hg | ⟨hg, hex⟩
  · rw [hg]; rfl
  · rw [hg, (hasMalformed_true_iff _).2 hex]; rfl

/-- a missing grammar, constraint or input ends with the usage code -/
theorem missing_exit (f : Files)
    (h : f.grammar = .missing ∨ f.constraints = [] ∨
      (AllOk f ∧ (f.input = .none ∨ f.input = .several))) :
    checkExit f = Generated.Cli.usageError := by
  rcases h with h | h | ⟨hok, hi⟩
  · unfold checkExit; rw [if_pos h]
  · unfold checkExit
    by_cases hg : f.grammar = .missing
    · rw [if_pos hg]
    · rw [if_neg hg, h]; rfl
  · rw [checkExit_allOk hok]
    rcases hi with hi | hi
    · rw [hi]; rfl
    · rw [hi]; rfl

/-- the decision function is total: it always yields one of the four documented codes -/
theorem exit_codes (f : Files) :
    checkExit f = 0 ∨ checkExit f = 1 ∨ checkExit f = Generated.Cli.usageError ∨
      checkExit f = Generated.Cli.dataFormatError := by
  by_cases h : AllOk f
  · rw [checkExit_allOk h]
    rcases f.input with _ | _ | ⟨_ | _, _ | _ | _⟩ <;> decide
  · exact .inr (.inr (checkExit_not_allOk h))

/-- the generated constants are the documented ones (re-checked when cli.py changes) -/
theorem documented_codes : Generated.Cli.usageError = 2 ∧ Generated.Cli.dataFormatError = 65 := by decide

/-- `isla parse` writes a tree exactly when `isla check` would exit 0 -/
theorem parse_writes_iff (f : Files) : parseWritesTree f = true ↔ checkExit f = 0 := by
  simp [parseWritesTree]

/-! non-vacuity: `AllOk` holds of some files; one command line for each of the exit codes 1, 0, 65, 2, and an
evaluation error on an input inside (65) and outside (1) the grammar -/
example : AllOk ⟨.ok, [.ok, .ok], .given true .unsat⟩ := by simp [AllOk]
example : checkExit ⟨.ok, [.ok, .ok], .given true .unsat⟩ = 1 ∧ checkExit ⟨.ok, [.ok], .given true .sat⟩ = 0
    ∧ checkExit ⟨.ok, [.ok, .malformed], .none⟩ = 65 ∧ checkExit ⟨.missing, [.ok], .given true .sat⟩ = 2
    ∧ checkExit ⟨.ok, [.ok], .given true .error⟩ = 65 ∧ checkExit ⟨.ok, [.ok], .given false .error⟩ = 1 := by decide +kernel

end IslaVerif.C19
