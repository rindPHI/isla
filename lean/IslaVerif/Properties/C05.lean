import IslaVerif.Proofs.Smt
import IslaVerif.Proofs.Regex
import IslaVerif.Proofs.Digits
/-
C05 — ground SMT-LIB atoms are judged exactly as Z3 judges them.
The theorems state that the oracle model `Smt.eval` — with which Z3 itself and every ISLa decision
point are compared on each run — implements the SMT-LIB 2.6 definitions (Ints, Strings, RegLan).
-/
namespace IslaVerif.C05
open IslaVerif.Smt

/-! Ints: for b ≠ 0, a = b·(a div b) + (a mod b) and 0 ≤ a mod b < |b| — and this determines div/mod -/

theorem divMod_spec (a b : Int) (hb : b ≠ 0) :
    a = b * smtDiv a b + smtMod a b ∧ 0 ≤ smtMod a b ∧ smtMod a b < (Int.ofNat b.natAbs) := by
  rw [smtMod_eq a b, smtDiv_eq a b]
  exact ⟨(Int.mul_ediv_add_emod a b).symm, Int.emod_nonneg a hb, Int.emod_lt a hb⟩

theorem divMod_unique (a b q r : Int) (hb : b ≠ 0) (h : a = b * q + r) (h0 : 0 ≤ r)
    (h1 : r < (Int.ofNat b.natAbs)) : q = smtDiv a b ∧ r = smtMod a b := by
  rw [smtMod_eq a b, smtDiv_eq a b]
  -- the remainder is determined, and with it the quotient, since `b * q + r = a = b * (a / b) + r`
  have hr : a % b = r := (Int.emod_eq_iff hb).2 ⟨h0, h1, -q, by rw [h, Int.mul_neg]; omega⟩
  have hq : b * q + r = b * (a / b) + r := by rw [← h, ← hr, Int.mul_ediv_add_emod]
  exact ⟨Int.eq_of_mul_eq_mul_left hb ((Int.add_left_inj r).1 hq), hr.symm⟩

/-! Strings: substr / at / indexof / replace meet their SMT-LIB definitions on ALL arguments,
including negative and out-of-range indices and empty patterns; `str.to_int` inverts `str.from_int`
and is −1 off the numerals -/

theorem substr_spec (w : List Char) (m n : Int) :
    (0 ≤ m ∧ m < w.length ∧ 0 < n →
      ∃ w1 w3, w = w1 ++ strSubstr w m n ++ w3 ∧ (w1.length : Int) = m ∧
        ((strSubstr w m n).length : Int) = min n (w.length - m)) ∧
    (¬ (0 ≤ m ∧ m < w.length ∧ 0 < n) → strSubstr w m n = []) := by
  rw [strSubstr_eq]
  refine ⟨fun h => ?_, fun h => if_neg h⟩
  rw [if_pos h]
  obtain ⟨i, rfl⟩ := Int.eq_ofNat_of_zero_le h.1
  obtain ⟨k, rfl⟩ := Int.eq_ofNat_of_zero_le (Int.le_of_lt h.2.2)
  have hi : i ≤ w.length := by omega
  rw [Int.toNat_natCast, Int.toNat_natCast]
  refine ⟨w.take i, (w.drop i).drop k, ?_, ?_, ?_⟩
  · rw [List.append_assoc, List.take_append_drop, List.take_append_drop]
  · rw [List.length_take, Nat.min_eq_left hi]
  · rw [List.length_take, List.length_drop]
    omega

theorem at_spec (w : List Char) (m : Int) :
    (0 ≤ m ∧ m < w.length → ∃ c, w[m.toNat]? = some c ∧ strAtF w m = [c]) ∧
    (¬ (0 ≤ m ∧ m < w.length) → strAtF w m = []) := by
  rw [strAtF_eq_substr, strSubstr_eq]
  constructor
  · rintro ⟨h0, h1⟩
    have hl : m.toNat < w.length := by omega
    rw [if_pos ⟨h0, h1, Int.one_pos⟩, List.drop_eq_getElem_cons hl]
    exact ⟨w[m.toNat], List.getElem?_eq_getElem hl, rfl⟩
  · intro h
    exact if_neg fun h' => h ⟨h'.1, h'.2.1⟩

theorem indexOf_spec (s t : List Char) (i : Int) :
    (strIndexOf s t i = -1 ↔ (i < 0 ∨ i > s.length ∨ ∀ k : Nat, i ≤ k → k ≤ s.length → ¬ t <+: s.drop k)) ∧
    (∀ j : Nat, strIndexOf s t i = j →
      i ≤ j ∧ t <+: s.drop j ∧ ∀ k : Nat, i ≤ k → k < j → ¬ t <+: s.drop k) := by
  unfold strIndexOf
  have hc : (decide (i < 0) || decide (i > s.length)) = true ↔ i < 0 ∨ i > s.length :=
    Bool.or_eq_true_iff.trans (or_congr decide_eq_true_iff decide_eq_true_iff)
  by_cases hi : i < 0 ∨ i > s.length
  · rw [if_pos (hc.2 hi)]
    exact ⟨iff_of_true rfl (or_assoc.1 (.inl hi)), fun j hj => by omega⟩
  · rw [if_neg (mt hc.1 hi), ← or_assoc, or_iff_right hi]
    -- in range `i` is a natural number, and what remains is `FirstOcc` with casts
    obtain ⟨p, rfl⟩ := Int.eq_ofNat_of_zero_le (by omega : 0 ≤ i)
    have hf := findFrom_firstOcc t s _ p rfl (by omega)
    simp only [Int.toNat_natCast, Int.ofNat_le]
    generalize findFrom t (List.drop p s) p = r at hf ⊢
    cases r with
    | none => exact ⟨iff_of_true rfl hf, fun j hj => by simp at hj⟩
    | some j' =>
      obtain ⟨h1, h2, h3, h4⟩ := hf
      refine ⟨iff_of_false (by simp) fun h => h j' h1 h2 h3, fun j hj => ?_⟩
      obtain rfl := Int.ofNat_inj.1 hj
      exact ⟨h1, h3, h4⟩

theorem replace_spec (s t t' : List Char) :
    (strContains s t = false → strReplace s t t' = s) ∧
    (strContains s t = true → ∃ u v, s = u ++ t ++ v ∧ strReplace s t t' = u ++ t' ++ v ∧
      ∀ k, k < u.length → ¬ t <+: s.drop k) := by
  unfold strContains strReplace
  have hf := findFrom_firstOcc t s s 0 rfl (Nat.zero_le _)
  generalize findFrom t s 0 = r at hf ⊢
  cases r with
  | none => exact ⟨fun _ => rfl, fun h => nomatch h⟩
  | some j =>
    obtain ⟨-, -, h3, h4⟩ := hf
    refine ⟨fun h => (nomatch h), fun _ => ⟨s.take j, s.drop (j + t.length), eq_take_append_of_prefix_drop h3, rfl,
      fun k hk => h4 k (Nat.zero_le _) ?_⟩⟩
    rw [List.length_take] at hk
    omega

theorem toInt_fromInt (n : Int) (h : 0 ≤ n) : strToInt (strFromInt n) = n := by
  obtain ⟨hne, hall, hval⟩ := toDigits_spec n.toNat
  unfold strFromInt
  rw [if_neg (Int.not_lt.2 h), natDigits_eq]
  unfold strToInt
  rw [if_pos, hval]
  · exact Int.toNat_of_nonneg h
  · rw [List.all_eq_true.2 hall, List.isEmpty_eq_false_iff.2 hne]
    rfl

theorem toInt_nonnumeral (s : List Char) (h : s = [] ∨ ∃ c ∈ s, isDigitC c = false) : strToInt s = -1 := by
  have hn : ¬ (!s.isEmpty && s.all isDigitC) = true := by
    rcases h with h | ⟨c, hc, hd⟩
    · simp [h]
    · simp only [Bool.and_eq_true, not_and, List.all_eq_true]
      intro _ hall
      have := hall c hc
      simp [hd] at this
  unfold strToInt
  exact if_neg hn

/-- RegLan: membership atoms are decided according to the SMT-LIB denotation of the regex -/
theorem inRe_spec (s : List Char) (r : Re) :
    eval (.inRe (.strLit s) r) = some (.bool (decide (Re.matchB r s = true))) ∧
    (Re.matchB r s = true ↔ Re.Lang r s) := by
  refine ⟨?_, Re.matchB_iff' ..⟩
  -- `eval` at the atom, then at the literal inside it
  unfold eval eval
  rw [Bool.decide_eq_true]

/-- evaluation never fails on a well-typed term unless a divisor is zero, and yields a value of the
term's type ("never raises instead of answering", for the oracle) -/
theorem eval_defined (t : Term) (τ : Ty) (h : wt t τ = true) (hd : divisorsOk t = true) :
    ∃ v, eval t = some v ∧ valTy v = τ := eval_sorted h (eval_isSome t τ h hd)

theorem eval_type (t : Term) (τ : Ty) (v : Val) (h : wt t τ = true) (he : eval t = some v) : valTy v = τ :=
  (eval_sortOf he).trans (wt_sortOf h).symm

/-! non-vacuity: negative dividend and divisor; an index out of range; a well-typed term whose divisor is not zero -/
example : smtDiv (-7) 2 = -4 ∧ smtMod (-7) 2 = 1 ∧ smtDiv 7 (-2) = -3 ∧ smtMod 7 (-2) = 1 := by decide +kernel
example : eval (.eq (.strAt (.strLit "ab".toList) (.intLit 5)) (.strLit [])) = some (.bool true) := by decide +kernel
example : wt (.eq (.div (.intLit 7) (.len (.strLit ['a']))) (.intLit 7)) .bool = true ∧
    divisorsOk (.eq (.div (.intLit 7) (.len (.strLit ['a']))) (.intLit 7)) = true := by decide +kernel

end IslaVerif.C05
