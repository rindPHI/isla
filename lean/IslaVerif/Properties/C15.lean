import IslaVerif.Proofs.Compress
import IslaVerif.Proofs.Intervals
/-
C15 — integer intervals inferred from a regex are exactly the numbers it matches; compressing a
concatenation never changes the language. `Lang` is the SMT-LIB denotation of the regex AST.
-/
namespace IslaVerif.C15
open IslaVerif.Re IslaVerif.Intervals

/-- the executable matcher used as oracle by the checks decides the denotation, for every regex
(union, concatenation, star, plus, option, bounded loops, complement, intersection, difference) -/
theorem matchB_iff (r : Re) (w : List Char) : Re.matchB r w = true ↔ Lang r w := Re.matchB_iff' r w

/-- rewriting a concatenation into its compressed form never changes the matched language:
for ALL lists of regular expressions -/
theorem compress_lang (rs : List Re) (w : List Char) : LangCat (compress rs) w ↔ LangCat rs w := by
  rw [compress, flatMap_compress_lang _ (groupRuns_spec rs).2, (groupRuns_spec rs).1]

mutual
/-- flattening nested concatenations (`z3_split_at_operator`) keeps the language -/
theorem splitConcat_lang (r : Re) (w : List Char) : LangCat (splitConcat r) w ↔ Lang r w := by
  cases r with
  | concat rs => exact langCat_splitConcatL rs w
  | _ => exact langCat_single _ _
theorem langCat_splitConcatL : ∀ (rs : List Re) (w : List Char), LangCat (splitConcatL rs) w ↔ LangCat rs w
  | [], _ => Iff.rfl
  | r :: rs, _ =>
      -- `splitConcatL (r :: rs)` is `splitConcat r ++ splitConcatL rs` by definition
      (langCat_append ..).trans <| exists₂_congr fun u v =>
        and_congr_right' (and_congr (splitConcat_lang r u) (langCat_splitConcatL rs v))
end

/-- `merge_intervals` denotes the union of its arguments … -/
theorem mergeIntervals_mem (ls : List (List Iv)) (hne : ls ≠ []) (hb : ∀ l ∈ ls, Bounded l) (n : Int) :
    ∃ m, mergeIntervals (ls.map some) = some m ∧ (inIvs m n = true ↔ ∃ l ∈ ls, inIvs l n = true) := by
  obtain ⟨m, hm, -, -, h⟩ := mergeIntervals_map some hne fun l hl => ⟨l, rfl, hb l hl⟩
  exact ⟨m, hm, by simpa only [Option.some.injEq, exists_eq_left'] using h n⟩

/-- … its result is sorted and the intervals are separated (never adjacent or overlapping) -/
theorem mergeIntervals_shape (ls : List (List Iv)) (m : List Iv) (hb : ∀ l ∈ ls, Bounded l)
    (h : mergeIntervals (ls.map some) = some m) : Bounded m ∧ Separated m := by
  have hne : ls ≠ [] := by
    rintro rfl
    cases h
  obtain ⟨m', hm', h1, h2, -⟩ := mergeIntervals_map some hne fun l hl => ⟨l, rfl, hb l hl⟩
  cases h.symm.trans hm'
  exact ⟨h1, h2⟩

theorem mergeIntervals_none (ls : List (Option (List Iv))) (h : Option.none ∈ ls) :
    mergeIntervals ls = Option.none := by
  -- `mapM id` answers only with a list `rs` such that `ls = rs.map some`
  have hm : ls.mapM id = Option.none := Option.eq_none_iff_forall_ne_some.2 fun rs hrs => by
    rw [← List.map_id ls, List.mapM_eq_some_iff.1 hrs] at h
    obtain ⟨_, _, h⟩ := List.mem_map.1 h
    cases h
  rw [mergeIntervals, hm]
  simp

/-- PARTIAL (the full statement would quantify over the whole documented shape, including the four
sequence forms): on the concatenation-free part of the shape — digits, ordered digit ranges, zero
sequences, full digit sequences and arbitrary unions of these — the inference always answers and the
union of its intervals is exactly the set of integer values of the matched strings.
What is missing: the concatenation (sign / zero-padding / [1-9][0-9]*) cases, for which the real code
has the known finding `inexact:sign-not-leading`; they are covered by the probing search only. -/
theorem intervals_exact_partial (r : Re) (h : Shape0 r) :
    ∃ I, numericIntervals r = some I ∧ Bounded I ∧ Exact r I :=
  infers_of_shape0 r h _ (by omega)

/-- a proved counterexample to the full statement, for the code after fix 0066a72: a regex of the documented shape
(zero padding followed by a signed number) whose inferred intervals contain −5 although the only
string it matches is "0-5", which has no integer value -/
theorem sign_not_leading_counterexample :
    numericIntervals (.concat [.str ['0'], .concat [.str ['-'], .str ['5']]]) = some [(-5, -5)] ∧
    (∀ s, Re.matchB (.concat [.str ['0'], .concat [.str ['-'], .str ['5']]]) s = true → s = "0-5".toList) ∧
    intVal "0-5".toList = Option.none := by
  refine ⟨by decide +kernel, ?_, by decide +kernel⟩
  intro s hs
  obtain ⟨u, v, rfl, hu, v1, v2, rfl, ⟨a, b, rfl, ha, c, d, rfl, hc, hd⟩, hv2⟩ := (Re.matchB_iff' _ s).1 hs
  subst hu ha hc hd hv2
  rfl

/-! non-vacuity: a union of all three kinds has the shape; the inference and the compression on concrete input -/
example : Shape0 (.union [.str ['3'], .range ['1'] ['2'], .plus digitRange09]) :=
  .union _ (by simp) (by
    intro r hr
    simp only [List.mem_cons, List.mem_nil_iff, or_false] at hr
    rcases hr with rfl | rfl | rfl
    · exact .digit '3' (by decide)
    · exact .range '1' '2' (by decide) (by decide) (by decide)
    · exact .fullPlus)
example : numericIntervals (.union [.str ['6'], .range ['1'] ['4']]) = some [(1, 4), (6, 6)] := by decide +kernel
example : Re.beqL (compress [.star (.str ['a']), .str ['a'], .plus (.str ['a'])]) [.str ['a'], .plus (.str ['a'])] = true := by decide +kernel

end IslaVerif.C15
