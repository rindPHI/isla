import IslaVerif.Proofs.XPath
import IslaVerif.Proofs.Sem
import IslaVerif.Proofs.Grammar
import IslaVerif.Properties.C09
/-
C08 — simplified syntax means exactly its documented core translation.

The emitter builds the derived connectives and the universal closure of free nonterminals from the combinators
`-`, `&`, `|` (modelled as `negF`, `andF`, `orF` in C09) and by pushing the closing quantifier into the formula
(`univ_close_over_var_push_in`); the theorems of namespace `C08` hold for EVERY interpretation of atoms and
quantifier domains and every environment.  The documented translation closes at top level; the difference over
an empty domain (`pushin_and_counterexample`) is recorded in DESIGN.md.
Of XPath elimination, the CHILD step `n.<T>[i]` is proved (namespace `C08x`).  The descendant axis, chains of
steps, and the default `in start` / fresh names are validated per generated constraint against hand-expanded
core forms (c08.py), not proved.
-/
namespace IslaVerif.C08
open IslaVerif.F IslaVerif.C09

variable {Env : Type}

/-- `left implies right` is emitted as `-left | right` -/
theorem implies_law (I : Interp Env) (ρ : Env) (a b na : F) (hn : negF a = some na) :
    Sat I ρ (orF na b) ↔ (Sat I ρ a → Sat I ρ b) := by
  rw [sat_orF I ρ na b, sat_negF I ρ a na hn]
  classical exact Decidable.imp_iff_not_or.symm

/-- `left iff right` is emitted as `(-left & -right) | (left & right)` -/
theorem iff_law (I : Interp Env) (ρ : Env) (a b na nb : F) (ha : negF a = some na) (hb : negF b = some nb) :
    Sat I ρ (orF (andF na nb) (andF a b)) ↔ (Sat I ρ a ↔ Sat I ρ b) := by
  rw [sat_orF, sat_andF, sat_andF, sat_negF I ρ a na ha, sat_negF I ρ b nb hb]
  classical exact Or.comm.trans Decidable.iff_iff_and_or_not_and_not.symm

/-- `left xor right` is emitted as `(left & -right) | (-left & right)` -/
theorem xor_law (I : Interp Env) (ρ : Env) (a b na nb : F) (ha : negF a = some na) (hb : negF b = some nb) :
    Sat I ρ (orF (andF a nb) (andF na b)) ↔ ¬ (Sat I ρ a ↔ Sat I ρ b) := by
  rw [sat_orF, sat_andF, sat_andF, sat_negF I ρ a na ha, sat_negF I ρ b nb hb]
  by_cases h1 : Sat I ρ a <;> by_cases h2 : Sat I ρ b <;> simp [h1, h2]

/-- `A` does not depend on the variable bound by quantifier `q` at `ρ` -/
def Indep (I : Interp Env) (ρ : Env) (q : Nat) (A : F) : Prop := ∀ ρ' ∈ I.dom q ρ, (Sat I ρ' A ↔ Sat I ρ A)

/-- pushing the closing universal quantifier into a disjunction -/
theorem pushin_or (I : Interp Env) (ρ : Env) (q : Nat) (A B : F) (hA : Indep I ρ q A) :
    Sat I ρ (.all q (.disj [A, B])) ↔ Sat I ρ (.disj [A, .all q B]) := by
  simp only [Sat, SatAny, or_false]
  constructor
  · intro h
    by_cases ha : Sat I ρ A
    · exact Or.inl ha
    · refine Or.inr fun ρ' hρ' => ?_
      rcases h ρ' hρ' with h1 | h1
      · exact absurd ((hA ρ' hρ').1 h1) ha
      · exact h1
  · rintro (h | h) ρ' hρ'
    · exact Or.inl ((hA ρ' hρ').2 h)
    · exact Or.inr (h ρ' hρ')

/-- … into a conjunction: sound when the quantifier's domain is not empty -/
theorem pushin_and (I : Interp Env) (ρ : Env) (q : Nat) (A B : F) (hA : Indep I ρ q A)
    (hne : I.dom q ρ ≠ []) :
    Sat I ρ (.all q (.conj [A, B])) ↔ Sat I ρ (.conj [A, .all q B]) := by
  simp only [Sat, SatAll, and_true]
  constructor
  · intro h
    obtain ⟨ρ0, h0⟩ := List.exists_mem_of_ne_nil _ hne
    exact ⟨(hA ρ0 h0).1 (h ρ0 h0).1, fun ρ' hρ' => (h ρ' hρ').2⟩
  · rintro ⟨h1, h2⟩ ρ' hρ'
    exact ⟨(hA ρ' hρ').2 h1, h2 ρ' hρ'⟩

/-- … and NOT sound over an empty domain: the quantified form holds vacuously, the pushed-in form
requires `A` (witness: A false, empty domain) -/
theorem pushin_and_counterexample :
    ∃ (I : Interp Unit) (ρ : Unit) (q : Nat) (A B : F),
      I.dom q ρ = [] ∧ Indep I ρ q A ∧ Sat I ρ (.all q (.conj [A, B])) ∧ ¬ Sat I ρ (.conj [A, .all q B]) := by
  refine ⟨{ atom := fun _ _ => False, smt := fun _ _ => False, dom := fun _ _ => [], bindInt := fun _ _ ρ => ρ }, (), 0, .atom 0, .atom 1, rfl, ?_, ?_, ?_⟩
  · intro ρ' h; cases h
  · simp [Sat]
  · simp [Sat, SatAll]

/-- one direction always holds: the pushed-in form implies the closed form -/
theorem pushin_and_mp (I : Interp Env) (ρ : Env) (q : Nat) (A B : F) (hA : Indep I ρ q A) :
    Sat I ρ (.conj [A, .all q B]) → Sat I ρ (.all q (.conj [A, B])) := by
  simp only [Sat, SatAll, and_true]
  rintro ⟨h1, h2⟩ ρ' hρ'
  exact ⟨(hA ρ' hρ').2 h1, h2 ρ' hρ'⟩

end IslaVerif.C08

/-
C08x — the documented translation of the XPath CHILD step `n.<T>[i]` means what it says.

`forall <V> n in c: φ(n.<T>[i])` is documented to mean: for every alternative `e` of `<V>` with at
least `i` occurrences of `<T>`, `forall <V> n="e, the i-th <T> bound to x" in c: φ(x)`, combined
by conjunction (`exists`: disjunction).  In the model this is ONE quantifier carrying the list
`childMTrees g V T i x` of match-expression trees (`list_is_conjunction` / `list_is_disjunction`
relate the two forms).
The only hypothesis is that the nodes in question are expanded by an alternative of `<V>`
*literally* (children labels = alternative).  `DTree.valid` also accepts the ε-alternative realised
by a single `""` child; such a node has no `T`-child for `T ≠ ""`, hence on a valid reference tree
`T ≠ ""` suffices (the `…_valid` forms).
-/
namespace IslaVerif.C08x
open IslaVerif.Sem IslaVerif.XPath

/-- `nthOcc T i e 0` is the position of the `i`-th `T` in `e` -/
theorem nthOcc_spec (T : String) (i : Nat) (e : List String) (k : Nat) :
    nthOcc T i e 0 = some k ↔ e[k]? = some T ∧ (e.take k).count T + 1 = i := by
  rw [nthOcc_iff]
  constructor
  · rintro ⟨j, rfl, h1, h2⟩
    rw [Nat.zero_add]
    exact ⟨h1, h2⟩
  · rintro ⟨h1, h2⟩
    exact ⟨k, (Nat.zero_add k).symm, h1, h2⟩

theorem nthOcc_eq_none_iff (T : String) (e : List String) (i pos : Nat) :
    nthOcc T i e pos = none ↔ i = 0 ∨ e.count T < i := by
  rw [← Option.not_isSome_iff_eq_none, nthOcc_isSome_iff, Decidable.not_and_iff_not_or_not, Nat.not_le, Nat.not_le,
    Nat.lt_one_iff]

theorem childMTrees_eq_nil_iff (g : Grammar) (V T : String) (i : Nat) (x : String) :
    childMTrees g V T i x = [] ↔ ∀ e ∈ (g.alts V).getD [], i = 0 ∨ e.count T < i := by
  simp only [childMTrees, List.filterMap_eq_nil_iff, Option.map_eq_none_iff, nthOcc_eq_none_iff]

theorem childMTrees_length (g : Grammar) (V T : String) (i : Nat) (x : String) :
    (childMTrees g V T i x).length =
      (((g.alts V).getD []).filter fun e => decide (1 ≤ i ∧ i ≤ e.count T)).length := by
  rw [childMTrees, List.length_filterMap_eq_countP, ← List.countP_eq_length_filter]
  refine List.countP_congr fun e _ => ?_
  rw [Option.isSome_map, nthOcc_isSome_iff, decide_eq_true_iff]

theorem match_child_full (g : Grammar) (V T : String) (i : Nat) (x : String) (pos : Path) (t : DTree)
    (m : MTree) (bs : List (String × Path)) (hm : m ∈ childMTrees g V T i x)
    (h : matchM pos t m.tree m.binds = some bs) :
    ∃ e k, e ∈ (g.alts V).getD [] ∧ m = { tree := altTree g V e, binds := [(x, [k])] } ∧
      t.sym = V ∧ t.kids.map DTree.sym = e ∧ bs = [(x, pos ++ [k])] ∧ nthChild T i t = some k := by
  obtain ⟨e, k, he, hk, rfl⟩ := (mem_childMTrees g V T i x m).1 hm
  simp only at h
  rw [matchM_altTree g pos x V k t e (nthOcc_lt hk)] at h
  split at h
  · rename_i hc
    simp only [Option.some.injEq] at h
    refine ⟨e, k, he, rfl, hc.1, hc.2, h.symm, ?_⟩
    unfold nthChild
    rw [hc.2]
    exact hk
  · cases h

/-- a tree of the translation that matches a node binds exactly `x`, to the `i`-th `<T>`-labelled
child of the node -/
theorem match_child (g : Grammar) (V T : String) (i : Nat) (x : String) (pos : Path) (t : DTree)
    (m : MTree) (bs : List (String × Path)) (hm : m ∈ childMTrees g V T i x)
    (h : matchM pos t m.tree m.binds = some bs) :
    ∃ k, bs = [(x, pos ++ [k])] ∧ nthChild T i t = some k := by
  obtain ⟨_, k, _, _, _, _, h1, h2⟩ := match_child_full g V T i x pos t m bs hm h
  exact ⟨k, h1, h2⟩

/-- if the node is labelled `<V>`, is expanded by one of `<V>`'s alternatives and has an `i`-th
`<T>`-child, some tree of the translation matches -/
theorem match_child_complete (g : Grammar) (V T : String) (i : Nat) (x : String) (pos : Path)
    (t : DTree) (k : Nat) (hs : t.sym = V) (he : t.kids.map DTree.sym ∈ (g.alts V).getD [])
    (hk : nthChild T i t = some k) :
    ∃ m, m ∈ childMTrees g V T i x ∧ matchM pos t m.tree m.binds = some [(x, pos ++ [k])] := by
  refine ⟨{ tree := altTree g V (t.kids.map DTree.sym), binds := [(x, [k])] },
    (mem_childMTrees g V T i x _).2 ⟨_, k, he, hk, rfl⟩, ?_⟩
  simp only
  rw [matchM_altTree g pos x V k t _ (nthOcc_lt hk)]
  simp [hs]

theorem match_child_complete_of_alt (g : Grammar) (V T : String) (i : Nat) (x : String) (pos : Path)
    (t : DTree) (k : Nat) (hs : t.sym = V)
    (he : ∃ e ∈ (g.alts V).getD [], t.kids.map DTree.sym = e)
    (hk : nthChild T i t = some k) :
    ∃ m, m ∈ childMTrees g V T i x ∧ matchM pos t m.tree m.binds = some [(x, pos ++ [k])] := by
  obtain ⟨e, he1, he2⟩ := he
  exact match_child_complete g V T i x pos t k hs (he2 ▸ he1) hk

/-- all trees of the translation that match a node give the same binding -/
theorem match_child_unique (g : Grammar) (V T : String) (i : Nat) (x : String) (pos : Path) (t : DTree)
    (m m' : MTree) (bs bs' : List (String × Path)) (hm : m ∈ childMTrees g V T i x)
    (hm' : m' ∈ childMTrees g V T i x) (h : matchM pos t m.tree m.binds = some bs)
    (h' : matchM pos t m'.tree m'.binds = some bs') : bs = bs' := by
  obtain ⟨k, rfl, hk⟩ := match_child g V T i x pos t m bs hm h
  obtain ⟨k', rfl, hk'⟩ := match_child g V T i x pos t m' bs' hm' h'
  rw [hk] at hk'
  cases hk'
  rfl

theorem expanded_of_valid (g : Grammar) (t : DTree) (hv : t.valid g = true) (hne : t.kids ≠ [])
    (h0 : t.kids.map DTree.sym ≠ [""]) : t.kids.map DTree.sym ∈ (g.alts t.sym).getD [] := by
  cases t with
  | openLeaf i s => exact absurd rfl hne
  | node i s ks =>
    obtain ⟨alt, ha, hm⟩ := DTree.valid_node_alt hv hne
    rcases Grammar.kidsMatch_iff.1 hm with hm | ⟨_, hm⟩
    · exact hm ▸ ha
    · exact absurd hm h0

theorem expanded_of_valid_nthChild (g : Grammar) (T : String) (i k : Nat) (t : DTree)
    (hT : T ≠ "") (hv : t.valid g = true) (hk : nthChild T i t = some k) :
    t.kids.map DTree.sym ∈ (g.alts t.sym).getD [] := by
  have hmem : T ∈ t.kids.map DTree.sym := nthOcc_mem hk
  apply expanded_of_valid g t hv
  · intro h
    rw [h] at hmem
    simp at hmem
  · intro h
    rw [h] at hmem
    exact hT (List.mem_singleton.1 hmem)

/-- an instance of the translated quantifier binds `n` to a node labelled `V`, `x` to its `i`-th `T`-child, and
nothing else -/
theorem matchInst_child_of {w : World} {β : Env} {n V c T : String} {i : Nat} {x : String} {β' : Env}
    (h : MatchInst w β n V c (childMTrees w.g V T i x) β') :
    ∃ p sub q t k, β.get c = some (.path p) ∧ w.root.get p = some sub ∧ sub.get q = some t ∧
      t.sym = V ∧ nthChild T i t = some k ∧
      β' = (n, Bind.path (p ++ q)) :: (x, Bind.path (p ++ q ++ [k])) :: β := by
  obtain ⟨p, sub, q, t, m, bs, h1, h2, h3, h4, hm, hbs, rfl⟩ := h
  obtain ⟨k, rfl, hk⟩ := match_child w.g V T i x (p ++ q) t m bs hm hbs
  exact ⟨p, sub, q, t, k, h1, h2, h3, h4, hk, rfl⟩

theorem matchInst_child (w : World) (β : Env) (n V c T : String) (i : Nat) (x : String)
    (hv : ∀ p sub q t k, β.get c = some (.path p) → w.root.get p = some sub → sub.get q = some t →
      t.sym = V → nthChild T i t = some k → t.kids.map DTree.sym ∈ (w.g.alts V).getD [])
    (β' : Env) :
    MatchInst w β n V c (childMTrees w.g V T i x) β' ↔
      ∃ p sub q t k, β.get c = some (.path p) ∧ w.root.get p = some sub ∧ sub.get q = some t ∧
        t.sym = V ∧ nthChild T i t = some k ∧
        β' = (n, Bind.path (p ++ q)) :: (x, Bind.path (p ++ q ++ [k])) :: β := by
  refine ⟨matchInst_child_of, ?_⟩
  rintro ⟨p, sub, q, t, k, h1, h2, h3, h4, hk, rfl⟩
  obtain ⟨m, hm, hbs⟩ := match_child_complete w.g V T i x (p ++ q) t k h4
    (hv p sub q t k h1 h2 h3 h4 hk) hk
  exact ⟨p, sub, q, t, m, _, h1, h2, h3, h4, hm, hbs, rfl⟩

/-- `←` of `xpath_child_all` needs no hypothesis at all -/
theorem xpath_child_all_of (w : World) (β : Env) (n V c T : String) (i : Nat) (x : String) (φ : Fm)
    (h : ∀ p sub q t k, β.get c = some (.path p) → w.root.get p = some sub → sub.get q = some t →
        t.sym = V → nthChild T i t = some k →
        Sat w ((n, .path (p ++ q)) :: (x, .path (p ++ q ++ [k])) :: β) φ) :
    Sat w β (.all n V c (some (childMTrees w.g V T i x)) φ) := by
  intro β' hβ'
  obtain ⟨p, sub, q, t, k, h1, h2, h3, h4, hk, rfl⟩ := matchInst_child_of hβ'
  exact h p sub q t k h1 h2 h3 h4 hk

/-- `→` of `xpath_child_ex` needs no hypothesis either -/
theorem xpath_child_ex_elim (w : World) (β : Env) (n V c T : String) (i : Nat) (x : String) (φ : Fm)
    (h : Sat w β (.ex n V c (some (childMTrees w.g V T i x)) φ)) :
    ∃ p sub q t k, β.get c = some (.path p) ∧ w.root.get p = some sub ∧ sub.get q = some t ∧
      t.sym = V ∧ nthChild T i t = some k ∧
      Sat w ((n, .path (p ++ q)) :: (x, .path (p ++ q ++ [k])) :: β) φ := by
  obtain ⟨β', hβ', hs⟩ := h
  obtain ⟨p, sub, q, t, k, h1, h2, h3, h4, hk, rfl⟩ := matchInst_child_of hβ'
  exact ⟨p, sub, q, t, k, h1, h2, h3, h4, hk, hs⟩

/-- the translated quantifier ranges exactly over the nodes labelled `<V>` in the in-tree that HAVE
an `i`-th `<T>`-child, `n` bound to the node and `x` to the child: nodes without one are skipped by
`forall` … -/
theorem xpath_child_all (w : World) (β : Env) (n V c T : String) (i : Nat) (x : String) (φ : Fm)
    (hv : ∀ p sub q t k, β.get c = some (.path p) → w.root.get p = some sub → sub.get q = some t →
      t.sym = V → nthChild T i t = some k → t.kids.map DTree.sym ∈ (w.g.alts V).getD []) :
    Sat w β (.all n V c (some (childMTrees w.g V T i x)) φ) ↔
      ∀ p sub q t k, β.get c = some (.path p) → w.root.get p = some sub → sub.get q = some t →
        t.sym = V → nthChild T i t = some k →
        Sat w ((n, .path (p ++ q)) :: (x, .path (p ++ q ++ [k])) :: β) φ :=
  -- `h _` sees through `Sat` on the quantifier; `unfold Sat` would also open the `Sat … φ` on the
  -- right, whose formula is a variable, into a twelve-arm `match`
  ⟨fun h p sub q t k h1 h2 h3 h4 hk =>
      h _ ((matchInst_child w β n V c T i x hv _).2 ⟨p, sub, q, t, k, h1, h2, h3, h4, hk, rfl⟩),
    xpath_child_all_of w β n V c T i x φ⟩

/-- … and cannot witness `exists` -/
theorem xpath_child_ex (w : World) (β : Env) (n V c T : String) (i : Nat) (x : String) (φ : Fm)
    (hv : ∀ p sub q t k, β.get c = some (.path p) → w.root.get p = some sub → sub.get q = some t →
      t.sym = V → nthChild T i t = some k → t.kids.map DTree.sym ∈ (w.g.alts V).getD []) :
    Sat w β (.ex n V c (some (childMTrees w.g V T i x)) φ) ↔
      ∃ p sub q t k, β.get c = some (.path p) ∧ w.root.get p = some sub ∧ sub.get q = some t ∧
        t.sym = V ∧ nthChild T i t = some k ∧
        Sat w ((n, .path (p ++ q)) :: (x, .path (p ++ q ++ [k])) :: β) φ :=
  ⟨xpath_child_ex_elim w β n V c T i x φ, by
    rintro ⟨p, sub, q, t, k, h1, h2, h3, h4, hk, hs⟩
    exact ⟨_, (matchInst_child w β n V c T i x hv _).2 ⟨p, sub, q, t, k, h1, h2, h3, h4, hk, rfl⟩, hs⟩⟩

/-- the expansion hypothesis holds in valid reference trees when `T` is not the empty symbol -/
theorem expanded_in_valid (w : World) (β : Env) (V c T : String) (i : Nat) (hT : T ≠ "")
    (hroot : w.root.valid w.g = true) :
    ∀ p sub q t k, β.get c = some (.path p) → w.root.get p = some sub → sub.get q = some t →
      t.sym = V → nthChild T i t = some k → t.kids.map DTree.sym ∈ (w.g.alts V).getD [] := by
  intro p sub q t k _ h2 h3 h4 hk
  have hvt : t.valid w.g = true :=
    DTree.valid_get w.g q sub t (DTree.valid_get w.g p w.root sub hroot h2) h3
  rw [← h4]
  exact expanded_of_valid_nthChild w.g T i k t hT hvt hk

theorem xpath_child_all_valid (w : World) (β : Env) (n V c T : String) (i : Nat) (x : String)
    (φ : Fm) (hT : T ≠ "") (hroot : w.root.valid w.g = true) :
    Sat w β (.all n V c (some (childMTrees w.g V T i x)) φ) ↔
      ∀ p sub q t k, β.get c = some (.path p) → w.root.get p = some sub → sub.get q = some t →
        t.sym = V → nthChild T i t = some k →
        Sat w ((n, .path (p ++ q)) :: (x, .path (p ++ q ++ [k])) :: β) φ :=
  xpath_child_all w β n V c T i x φ (expanded_in_valid w β V c T i hT hroot)

theorem xpath_child_ex_valid (w : World) (β : Env) (n V c T : String) (i : Nat) (x : String)
    (φ : Fm) (hT : T ≠ "") (hroot : w.root.valid w.g = true) :
    Sat w β (.ex n V c (some (childMTrees w.g V T i x)) φ) ↔
      ∃ p sub q t k, β.get c = some (.path p) ∧ w.root.get p = some sub ∧ sub.get q = some t ∧
        t.sym = V ∧ nthChild T i t = some k ∧
        Sat w ((n, .path (p ++ q)) :: (x, .path (p ++ q ++ [k])) :: β) φ :=
  xpath_child_ex w β n V c T i x φ (expanded_in_valid w β V c T i hT hroot)

/-- the documented form — one quantifier per match-expression tree, combined by conjunction — and
the model's form — one quantifier with the list of trees — mean the same -/
theorem list_is_conjunction (w : World) (β : Env) (v ty c : String) (ms : List MTree) (f : Fm) :
    Sat w β (.conj (ms.map fun m => .all v ty c (some [m]) f)) ↔ Sat w β (.all v ty c (some ms) f) := by
  refine (satAll_map w β _ ms).trans ⟨fun h β' hβ' => ?_, fun h m hm β' hi => ?_⟩
  · obtain ⟨m, hm, hi⟩ := (matchInst_list w β v ty c ms β').1 hβ'
    exact h m hm β' hi
  · exact h β' ((matchInst_list w β v ty c ms β').2 ⟨m, hm, hi⟩)

theorem list_is_disjunction (w : World) (β : Env) (v ty c : String) (ms : List MTree) (f : Fm) :
    Sat w β (.disj (ms.map fun m => .ex v ty c (some [m]) f)) ↔ Sat w β (.ex v ty c (some ms) f) := by
  refine (satAny_map w β _ ms).trans ⟨?_, ?_⟩
  · rintro ⟨m, hm, β', hi, hs⟩
    exact ⟨β', (matchInst_list w β v ty c ms β').2 ⟨m, hm, hi⟩, hs⟩
  · rintro ⟨β', hβ', hs⟩
    obtain ⟨m, hm, hi⟩ := (matchInst_list w β v ty c ms β').1 hβ'
    exact ⟨m, hm, β', hi, hs⟩

/-! non-vacuity: the translation computed on two small grammars, matched against concrete nodes, and
evaluated end to end -/

/-- `altTree` as in the documentation of the model -/
example (g : Grammar) (V : String) (e : List String) :
    altTree g V e =
      .node 0 V (e.map fun s => if g.isNT s then .openLeaf 0 s else .node 0 s []) := rfl

def asg : Grammar :=
  [("<start>", [["<stmt>"]]), ("<stmt>", [["<assgn>"], ["<assgn>", " ; ", "<stmt>"]]),
   ("<assgn>", [["<var>", " := ", "<rhs>"]]), ("<rhs>", [["<var>"], ["<digit>"]]),
   ("<var>", [["a"], ["b"]]), ("<digit>", [["0"], ["1"]])]

def pairs : Grammar :=
  [("<start>", [["<pair>"]]),
   ("<pair>", [["<key>", "=", "<val>"], ["<key>", "=", "<val>", "=", "<val>"]]),
   ("<key>", [["k"]]), ("<val>", [["v"]])]

example : (childMTrees pairs "<pair>" "<val>" 2 "x").map (·.binds) = [[("x", [4])]] := by decide +kernel
example : (childMTrees pairs "<pair>" "<val>" 2 "x").map (·.tree) =
    [.node 0 "<pair>" [.openLeaf 0 "<key>", .node 0 "=" [], .openLeaf 0 "<val>", .node 0 "=" [],
      .openLeaf 0 "<val>"]] := by rfl
example : (childMTrees pairs "<pair>" "<val>" 1 "x").length = 2 := by decide +kernel
example : (childMTrees pairs "<pair>" "<val>" 1 "x").map (·.binds) =
    [[("x", [2])], [("x", [2])]] := by decide +kernel
example : childMTrees pairs "<pair>" "<val>" 3 "x" = [] := by decide +kernel
example : childMTrees pairs "<pair>" "<val>" 0 "x" = [] := by decide +kernel
example : childMTrees pairs "<nope>" "<val>" 1 "x" = [] := by decide +kernel

example : (childMTrees asg "<stmt>" "<stmt>" 1 "x").map (·.binds) = [[("x", [2])]] := by decide +kernel
example : (childMTrees asg "<stmt>" "<assgn>" 1 "x").map (·.binds) =
    [[("x", [0])], [("x", [0])]] := by decide +kernel
example : childMTrees asg "<stmt>" "<assgn>" 2 "x" = [] := by decide +kernel
example : (childMTrees asg "<rhs>" "<var>" 1 "x").map (·.tree) =
    [.node 0 "<rhs>" [.openLeaf 0 "<var>"]] := by rfl
example : (childMTrees asg "<assgn>" "<rhs>" 1 "x").map (·.tree) =
    [.node 0 "<assgn>" [.openLeaf 0 "<var>", .node 0 " := " [], .openLeaf 0 "<rhs>"]] := by rfl

def stmt2 : DTree := .node 1 "<stmt>" [.node 2 "<assgn>" [], .node 3 " ; " [], .node 4 "<stmt>" []]
def stmt1 : DTree := .node 1 "<stmt>" [.node 2 "<assgn>" []]

example : nthChild "<stmt>" 1 stmt2 = some 2 := by decide +kernel
example : nthChild "<stmt>" 1 stmt1 = none := by decide +kernel
example : (childMTrees asg "<stmt>" "<stmt>" 1 "x").filterMap
    (fun m => matchM [0] stmt2 m.tree m.binds) = [[("x", [0, 2])]] := by decide +kernel
example : (childMTrees asg "<stmt>" "<stmt>" 1 "x").filterMap
    (fun m => matchM [0] stmt1 m.tree m.binds) = [] := by decide +kernel
/-- both `<assgn>`-trees exist, but only the one of the node's own alternative matches -/
example : (childMTrees asg "<stmt>" "<assgn>" 1 "x").map
    (fun m => matchM [] stmt2 m.tree m.binds) = [none, some [("x", [0])]] := by decide +kernel

/-- end to end with the reference evaluator: only the outer `<stmt>` has a `<stmt>`-child; the single instance
binds `n` to it and `x` to its third child -/
def root2 : DTree :=
  .node 0 "<start>" [.node 1 "<stmt>" [.node 2 "<assgn>" [], .node 3 " ; " [],
    .node 4 "<stmt>" [.node 5 "<assgn>" []]]]
def w2 : World := { g := asg, root := root2, isNT := fun s => s.startsWith "<", intBound := 2 }

example : mexprInstances w2 [("start", .path [])] "n" [[0], [0, 2]]
    (childMTrees asg "<stmt>" "<stmt>" 1 "x") =
    [[("n", .path [0]), ("x", .path [0, 2]), ("start", .path [])]] := by decide +kernel
example : evalRef w2 [("start", .path [])]
    (childAll asg "n" "<stmt>" "start" "<stmt>" 1 "x"
      (.pred "direct_child" [.var "x", .var "n"])) = some true := by decide +kernel
/-- no `<stmt>` has a second `<assgn>`-child: `exists` is false even for the body `true` -/
example : evalRef w2 [("start", .path [])]
    (childEx asg "n" "<stmt>" "start" "<assgn>" 2 "x" (.conj [])) = some false := by decide +kernel

end IslaVerif.C08x

/-! The four main results under the names of namespace `XPath`, where `childMTrees` and `nthChild`,
the definitions they are about, live. -/
namespace IslaVerif.XPath
open IslaVerif.Sem

theorem match_child (g : Grammar) (V T : String) (i : Nat) (x : String) (pos : Path) (t : DTree)
    (m : MTree) (bs : List (String × Path)) (hm : m ∈ childMTrees g V T i x)
    (h : matchM pos t m.tree m.binds = some bs) :
    ∃ k, bs = [(x, pos ++ [k])] ∧ nthChild T i t = some k :=
  C08x.match_child g V T i x pos t m bs hm h

theorem match_child_complete (g : Grammar) (V T : String) (i : Nat) (x : String) (pos : Path)
    (t : DTree) (k : Nat) (hs : t.sym = V) (he : t.kids.map DTree.sym ∈ (g.alts V).getD [])
    (hk : nthChild T i t = some k) :
    ∃ m, m ∈ childMTrees g V T i x ∧ matchM pos t m.tree m.binds = some [(x, pos ++ [k])] :=
  C08x.match_child_complete g V T i x pos t k hs he hk

theorem xpath_child_all (w : World) (β : Env) (n V c T : String) (i : Nat) (x : String) (φ : Fm)
    (hv : ∀ p sub q t k, β.get c = some (.path p) → w.root.get p = some sub → sub.get q = some t →
      t.sym = V → nthChild T i t = some k → t.kids.map DTree.sym ∈ (w.g.alts V).getD []) :
    Sat w β (.all n V c (some (childMTrees w.g V T i x)) φ) ↔
      ∀ p sub q t k, β.get c = some (.path p) → w.root.get p = some sub → sub.get q = some t →
        t.sym = V → nthChild T i t = some k →
        Sat w ((n, .path (p ++ q)) :: (x, .path (p ++ q ++ [k])) :: β) φ :=
  C08x.xpath_child_all w β n V c T i x φ hv

theorem xpath_child_ex (w : World) (β : Env) (n V c T : String) (i : Nat) (x : String) (φ : Fm)
    (hv : ∀ p sub q t k, β.get c = some (.path p) → w.root.get p = some sub → sub.get q = some t →
      t.sym = V → nthChild T i t = some k → t.kids.map DTree.sym ∈ (w.g.alts V).getD []) :
    Sat w β (.ex n V c (some (childMTrees w.g V T i x)) φ) ↔
      ∃ p sub q t k, β.get c = some (.path p) ∧ w.root.get p = some sub ∧ sub.get q = some t ∧
        t.sym = V ∧ nthChild T i t = some k ∧
        Sat w ((n, .path (p ++ q)) :: (x, .path (p ++ q ++ [k])) :: β) φ :=
  C08x.xpath_child_ex w β n V c T i x φ hv

end IslaVerif.XPath
