import IslaVerif.Proofs.Formats.Csv
import IslaVerif.Proofs.Formats.Tar
import IslaVerif.Proofs.Formats.Xml
import IslaVerif.Proofs.Formats.Rest
/-
C21 — inputs generated for the bundled formalizations pass independent validity checks.

The checks are executable SPECIFICATIONS of the formats (Model/Formats.lean), written from the formats' own
rules and not from the ISLa constraints; they are not models of ISLa code (nothing about the solver is proved
here).  What is proved is that each executable checker is sound and (the statements named `_sound` and
`_balanced` apart) complete for a DECLARATIVE statement of its rule, so that "accepted by the compiled checker"
means what the rule says, for every input.  The proofs are in Proofs/Formats/; the theorems are restated here
under the same names because the harness audits what it finds in the property file.
The reST clause "docutils renders without errors" cannot be expressed by a Lean model; the harness
runs docutils as an external oracle.
-/
namespace IslaVerif.C21
open Formats

/-- CSV, quote-aware: records made of plain pieces and quoted strings; the scanner yields one more
than the number of separators OUTSIDE quotes, and the text is accepted iff that number is the same
for all records -/
theorem csvScan_records (rs : List (List Seg)) (hok : ∀ r ∈ rs, ∀ g ∈ r, g.Ok) :
    csvScan (renderRecords rs) false 1 [] = rs.map fun r => 1 + recordSeps r :=
  Formats.csvScan_records rs hok

theorem csvOk_records (rs : List (List Seg)) (hne : rs ≠ []) (hok : ∀ r ∈ rs, ∀ g ∈ r, g.Ok) :
    csvOk (renderRecords rs) = true ↔ ∃ k, ∀ r ∈ rs, recordSeps r = k :=
  Formats.csvOk_records rs hne hok

/-- quoted separators and line feeds are skipped -/
theorem csvScan_quoted (q rest : List Char) (n : Nat) (acc : List Nat) (hq : ∀ c ∈ q, c ≠ '"') :
    csvScan ('"' :: q ++ '"' :: rest) false n acc = csvScan rest false n acc :=
  Formats.csvScan_quoted q rest n acc hq

/-- CSV, quote-free text `l₁ ⏎ l₂ ⏎ … lₖ ⏎`: the scanner yields `1 + count ';' lᵢ` per line -/
theorem csvScan_plain (ls : List (List Char)) (hq : ∀ l ∈ ls, Plain l) :
    csvScan (joinLines ls) false 1 [] = ls.map fun l => 1 + l.count ';' :=
  Formats.csvScan_plain ls hq

/-- such a text with at least one line is accepted iff all lines have the same number of `;`.  (This is
`Formats.csvOk_plain'`; `Formats.csvOk_plain` takes the first line as the reference in place of `∃ k`.) -/
theorem csvOk_plain (ls : List (List Char)) (hne : ls ≠ []) (hq : ∀ l ∈ ls, Plain l) :
    csvOk (joinLines ls) = true ↔ ∃ k, ∀ l ∈ ls, l.count ';' = k :=
  Formats.csvOk_plain' ls hne hq

/-- the step that `csvScan_plain` iterates, with `Plain` and `count` written out -/
theorem csvScan_plain_line (l : List Char) (n : Nat) (acc : List Nat) (rest : List Char)
    (hq : ∀ c ∈ l, c ≠ '"' ∧ c ≠ '\n') :
    csvScan (l ++ '\n' :: rest) false n acc = csvScan rest false 1 ((n + (l.filter (· == ';')).length) :: acc) := by
  rw [csvScan_plain_seg l n acc _ hq, csvScan_newline, List.count_eq_length_filter]

/-- XML: the accepted documents are exactly those whose token sequence is one well-formed element
(balanced tags with matching names, no text outside the root, `tagOk` for every tag in its scope) -/
theorem xmlOk_iff (s : List Char) : xmlOk s = true ↔ ∃ toks, Tokenizes s toks ∧ Element [] toks :=
  Formats.xmlOk_iff s

theorem xmlOk_balanced (s : List Char) (h : xmlOk s = true) :
    ∃ toks, Tokenizes s toks ∧ countKind .opening toks = countKind .closing toks :=
  Formats.xmlOk_balanced s h

/-- XML, what `tagOk` in `Content` and `Element` asks of a tag: attribute names pairwise distinct; the prefix
of the tag name, and of every attribute name other than `xmlns`, declared by the tag or in the enclosing scope -/
theorem tagOk_iff (scope : List (List Char)) (t : Tag) :
    tagOk scope t = true ↔
      (t.attrs.map (·.1)).Nodup ∧
      (∀ p, prefixOf t.name = some p → p ∈ declared t ++ scope) ∧
      ∀ a ∈ t.attrs, ∀ p, prefixOf a.1 = some p → p = xmlns ∨ p ∈ declared t ++ scope :=
  Formats.tagOk_iff scope t

/-- XML, three rejections stated on the scanner itself: the empty text; text outside any element; a closing
tag whose name is not that of the innermost open element -/
theorem xmlOk_nil : xmlOk [] = false := Formats.xmlOk_nil

theorem xmlScan_text_outside (f : Nat) (c : Char) (rest : List Char) (seen : Bool) (hc : c ≠ '<') :
    xmlScan (f + 1) (c :: rest) [] seen = false :=
  Formats.xmlScan_text_outside f c rest seen hc

theorem xmlScan_close_mismatch (f : Nat) (rest rest' : List Char) (t : Tag) (n : List Char)
    (sc : List (List Char)) (st : List (List Char × List (List Char))) (seen : Bool)
    (hp : parseTag rest = some (t, rest')) (hk : t.kind = .closing) (hn : n ≠ t.name) :
    xmlScan (f + 1) ('<' :: rest) ((n, sc) :: st) seen = false :=
  Formats.xmlScan_close_mismatch f rest rest' t n sc st seen hp hk hn

/-- TAR: size, checksum (the 6 octal digits at offset 100 denote the sum of the character codes of
the 209 header characters with the checksum field blanked), checksum terminator, type flag,
content marker and NUL-padded names of an accepted entry -/
theorem tarEntry_sound (e : List Char) (r : TarEntry) (h : tarEntry e = some r) :
    e.length = 216 ∧
    octVal ((e.drop 100).take 6) = some ((blankChecksum e).map Char.toNat).sum ∧
    e[106]? = some nul ∧ e[107]? = some ' ' ∧
    (e[108]? = some '0' ∨ e[108]? = some '2') ∧ e[108]? = some r.typeflag ∧
    e.drop 209 = "CONTENT".toList ∧
    r.name ≠ [] ∧ nul ∉ r.name ∧ (∃ k, e.take 100 = r.name ++ List.replicate k nul) ∧
    nul ∉ r.linked ∧ (∃ k, (e.drop 109).take 100 = r.linked ++ List.replicate k nul) :=
  Formats.tarEntry_sound e r h

/-- what `octVal` in `tarEntry_sound` denotes: on a non-empty string of octal digits, its positional value
(the `←` half of `Formats.octVal_eq_some_iff`, under the checker's own test) -/
theorem octVal_digits (ds : List Char) (h1 : ds ≠ []) (h2 : ds.all (fun c => '0' ≤ c && c ≤ '7') = true) :
    octVal ds = some (ds.foldl (fun a c => 8 * a + (c.toNat - 48)) 0) := by
  unfold octVal
  rw [h2, List.isEmpty_eq_false_iff.2 h1]
  rfl

/-- what `blankChecksum` in `tarEntry_sound` denotes, position by position: the header with the characters
100..107 replaced by blanks -/
theorem blankChecksum_getElem? (e : List Char) (he : e.length = 216) (i : Nat) (hi : i < 209) :
    (blankChecksum e)[i]? = if 100 ≤ i ∧ i < 108 then some ' ' else e[i]? :=
  Formats.blankChecksum_getElem? e he i hi

/-- a rejection: the first conjunct of `tarEntry_sound`, contraposed -/
theorem tarEntry_size (e : List Char) (h : e.length ≠ 216) : tarEntry e = none := by
  simp [tarEntry, h]

/-- TAR: `tarOk` is sound and complete for `TarValid` (blocks are entries; every link with a
non-empty target names another entry) -/
theorem tarOk_iff (s : List Char) : tarOk s = true ↔ ∃ es, TarValid s es :=
  Formats.tarOk_iff s

/-- TAR: accepted archives are a positive number of 216-character blocks, each an entry (what `tarOk_iff`
says without `TarValid`, links left out) -/
theorem tarOk_sound (s : List Char) (h : tarOk s = true) :
    s.length % 216 = 0 ∧ s ≠ [] ∧
      ∀ i, i < s.length / 216 → ∃ e, tarEntry ((s.drop (216 * i)).take 216) = some e :=
  Formats.tarOk_sound s h

/-- a rejection: the first conjunct of `tarOk_sound`, contraposed -/
theorem tarOk_size (s : List Char) (h : s.length % 216 ≠ 0) : tarOk s = false := by
  simp [tarOk, h]

/-- what `nodesOf t sym` in the reST statements denotes: the subtrees of `t` labelled `sym` -/
theorem mem_nodesOf_iff (t : DTree) (sym : String) (n : DTree) :
    n ∈ nodesOf t sym ↔ ∃ p, t.get p = some n ∧ n.sym = sym :=
  Formats.mem_nodesOf_iff t sym n

/-- reST underline: every `<section-title>` node has three children (title, line break, underline),
the title is non-empty and the underline is at least as long as the title -/
theorem restUnderlineOk_iff (g : Grammar) (t : DTree) :
    restUnderlineOk g t = true ↔
      ∀ n ∈ nodesOf t "<section-title>", ∃ ti sep ul, n.kids = [ti, sep, ul] ∧
        0 < (ti.yieldC g).length ∧ (ti.yieldC g).length ≤ (ul.yieldC g).length :=
  Formats.restUnderlineOk_iff g t

/-- what `idsBelow g t sym` denotes: the strings of the `<id>` nodes inside a `sym` node -/
theorem mem_idsBelow_iff (g : Grammar) (t : DTree) (sym : String) (s : List Char) :
    s ∈ idsBelow g t sym ↔ ∃ n ∈ nodesOf t sym, ∃ i ∈ nodesOf n "<id>", i.yieldC g = s :=
  Formats.mem_idsBelow_iff g t sym s

/-- reST link targets: no identifier is defined by two labels -/
theorem restLabelsUnique_iff (g : Grammar) (t : DTree) :
    restLabelsUnique g t = true ↔ (idsBelow g t "<label>").Nodup :=
  Formats.restLabelsUnique_iff g t

/-- reST references: every referenced identifier is a defined link target -/
theorem restRefsDefined_iff (g : Grammar) (t : DTree) :
    restRefsDefined g t = true ↔
      ∀ s, (s ∈ idsBelow g t "<internal_reference>" ∨ s ∈ idsBelow g t "<internal_reference_nospace>") →
        s ∈ idsBelow g t "<label>" :=
  Formats.restRefsDefined_iff g t

/-- reST numbering: all items carry a number, and each adjacent pair `(a, b)` has `0 < a`, `b = a + 1` -/
theorem consecutiveFrom_iff (l : List (Option Nat)) :
    consecutiveFrom l = true ↔
      ∃ ns : List Nat, l = ns.map some ∧
        ∀ i, (h : i + 1 < ns.length) → 0 < ns[i] ∧ ns[i + 1] = ns[i] + 1 :=
  Formats.consecutiveFrom_iff l

/-- reST numbering on the tree: the condition of `consecutiveFrom_iff`, of the item numbers of every
`<enumeration>` node -/
theorem restNumberingOk_iff (g : Grammar) (t : DTree) :
    restNumberingOk g t = true ↔
      ∀ e ∈ nodesOf t "<enumeration>", ∃ ns : List Nat, enumNumbers g e = ns.map some ∧
        ∀ i, (h : i + 1 < ns.length) → 0 < ns[i] ∧ ns[i + 1] = ns[i] + 1 :=
  Formats.restNumberingOk_iff g t

/-! non-vacuity, CSV: a separator inside a quoted field is not a separator; lines of one and two fields are
rejected, of two and two accepted.  (`rw [String.toList_ofList]`: see Proofs/Formats/Csv.lean.) -/

example : csvScan "a;\"b;c\"\nd;e\n".toList false 1 [] = [2, 2] := by
  rw [String.toList_ofList]
  decide +kernel
example : csvOk "a;b\nc\n".toList = false ∧ csvOk "a;b\nc;d\n".toList = true := by
  rw [String.toList_ofList, String.toList_ofList]
  decide +kernel

/-! non-vacuity, XML: balanced tags with a declared prefix are accepted; a mismatched closing tag, a repeated
attribute and an undeclared prefix (of a tag name, of an attribute name) are rejected -/

example : xmlOk "<a xmlns:p=\"u\"><p:b x=\"1\" y=\"2\"/>t</a>".toList = true := by
  rw [String.toList_ofList]
  decide +kernel
example : xmlOk "<a><b></a></b>".toList = false := by
  rw [String.toList_ofList]
  decide +kernel
example : xmlOk "<a x=\"1\" x=\"2\"/>".toList = false := by
  rw [String.toList_ofList]
  decide +kernel
example : xmlOk "<p:a/>".toList = false := by
  rw [String.toList_ofList]
  decide +kernel
example : xmlOk "<a q:x=\"1\"/>".toList = false := by
  rw [String.toList_ofList]
  decide +kernel

/-! non-vacuity, reST: a title "ab" underlined by "==" is accepted, by "=" rejected; duplicate labels and an
undefined reference are rejected; the numbering 3, 4, 5 is accepted, a gap and a start at 0 are rejected -/

example : restUnderlineOk exG (exTitle "==") = true ∧ restUnderlineOk exG (exTitle "=") = false := by
  decide +kernel
example : restLabelsUnique exG (exDoc "x" "y" "x") = true ∧ restLabelsUnique exG (exDoc "x" "x" "x") = false := by
  decide +kernel
example : restRefsDefined exG (exDoc "x" "y" "y") = true ∧ restRefsDefined exG (exDoc "x" "y" "z") = false := by
  decide +kernel

example : consecutiveFrom [some 3, some 4, some 5] = true ∧ consecutiveFrom [some 1, some 3] = false ∧ consecutiveFrom [some 0, some 1] = false := by
  decide +kernel

end IslaVerif.C21
