import IslaVerif.Proofs.Formula
import IslaVerif.Properties.C07
/-
C09 — formula negation and normal-form rewrites preserve meaning.
One theorem for each function of Model/Formula.lean that returns formulas, in the order of the model, since
each rests on the ones before it; it is an induction on the formula (`F.ind`) or the case analysis of the
function's own definition, and its list half follows by `sat_of_map_eq`.  The statements quantify over every
interpretation of the atoms, every finite (possibly empty) quantifier domain and every environment (`Interp`,
`Sat`: Proofs/Formula.lean), i.e. over all grammars, closed trees and assignments.
-/
namespace IslaVerif.C09
open IslaVerif.F

theorem beqL_eq : ∀ (as bs : List F), beqL as bs = true → as = bs :=
  fun _ _ => beqL_eq_of fun a _ => beq_eq a

theorem sat_splitConj {Env} (I : Interp Env) (ρ : Env) (f : F) :
    SatAll I ρ (splitConj f) ↔ Sat I ρ f := by
  induction f with
  | conj fs ih =>
    rw [splitConj, splitConjL_eq, satAll_flatMap, sat_conj]
    exact forall₂_congr ih
  | _ => exact and_iff_left trivial

theorem sat_splitDisj {Env} (I : Interp Env) (ρ : Env) (f : F) :
    SatAny I ρ (splitDisj f) ↔ Sat I ρ f := by
  induction f with
  | disj fs ih =>
    rw [splitDisj, splitDisjL_eq, satAny_flatMap, sat_disj]
    exact exists_congr fun f => and_congr_right (ih f)
  | _ => exact or_iff_left id

theorem sat_splitConjL {Env} (I : Interp Env) : ∀ (ρ : Env) (fs : List F),
    SatAll I ρ (splitConjL fs) ↔ SatAll I ρ fs := by
  intro ρ fs
  rw [splitConjL_eq, satAll_flatMap, satAll_iff]
  exact forall₂_congr fun f _ => sat_splitConj I ρ f

theorem sat_splitDisjL {Env} (I : Interp Env) : ∀ (ρ : Env) (fs : List F),
    SatAny I ρ (splitDisjL fs) ↔ SatAny I ρ fs := by
  intro ρ fs
  rw [splitDisjL_eq, satAny_flatMap, satAny_iff]
  exact exists_congr fun f => and_congr_right fun _ => sat_splitDisj I ρ f

/-- Python's `==` on formulas identifies only formulas with the same meaning -/
theorem sat_feq {Env} (I : Interp Env) (ρ : Env) (a b : F) (h : feq a b = true) :
    Sat I ρ a ↔ Sat I ρ b := by
  rw [← sat_flat I ρ a, ← sat_flat I ρ b, beq_eq _ _ h]

theorem sat_isNegOf {Env} (I : Interp Env) (ρ : Env) (a b : F) :
    isNegOf a b = true → (Sat I ρ a ↔ ¬ Sat I ρ b) := by
  fun_cases isNegOf a b
  · intro h; rw [Sat, sat_feq I ρ _ _ h]
  · exact (nomatch ·)

/-- the simplifying `&` combinator is conjunction -/
theorem sat_andF {Env} (I : Interp Env) (ρ : Env) (a b : F) :
    Sat I ρ (andF a b) ↔ Sat I ρ a ∧ Sat I ρ b := by
  fun_cases andF a b
  · next h => rw [← sat_feq I ρ a b h, and_self]
  · simp only [Sat, false_and]
  · simp only [Sat, and_false]
  · simp only [Sat, true_and]
  · simp only [Sat, and_true]
  · next h => simp only [if_pos h, Sat, sat_isNegOf I ρ a b h, not_and_self_iff]
  · next h1 h2 => simp only [if_neg h1, if_pos h2, Sat, sat_isNegOf I ρ b a h2, and_not_self_iff]
  · next h1 h2 => simp only [if_neg h1, if_neg h2, Sat, SatAll, and_true]

/-- the simplifying `|` combinator is disjunction -/
theorem sat_orF {Env} (I : Interp Env) (ρ : Env) (a b : F) :
    Sat I ρ (orF a b) ↔ Sat I ρ a ∨ Sat I ρ b := by
  fun_cases orF a b
  · next h => rw [← sat_feq I ρ a b h, or_self]
  · simp only [Sat, true_or]
  · simp only [Sat, or_true]
  · simp only [Sat, false_or]
  · simp only [Sat, or_false]
  · next h =>
    simp only [if_pos h, Sat, sat_isNegOf I ρ a b h, true_iff]; exact (Classical.em _).symm
  · next h1 h2 =>
    simp only [if_neg h1, if_pos h2, Sat, sat_isNegOf I ρ b a h2, true_iff]; exact Classical.em _
  · next h1 h2 => simp only [if_neg h1, if_neg h2, Sat, SatAny, or_false]

section
variable {Env : Type} (I : Interp Env) (ρ : Env)

theorem sat_foldl_andF (xs : List F) (x : F) : Sat I ρ (xs.foldl andF x) ↔ Sat I ρ x ∧ SatAll I ρ xs := by
  induction xs generalizing x with
  | nil => exact (and_iff_left trivial).symm
  | cons y ys ih =>
    rw [List.foldl_cons, ih, sat_andF, and_assoc]
    exact Iff.rfl

theorem sat_foldl_orF (xs : List F) (x : F) : Sat I ρ (xs.foldl orF x) ↔ Sat I ρ x ∨ SatAny I ρ xs := by
  induction xs generalizing x with
  | nil => exact (or_iff_left id).symm
  | cons y ys ih =>
    rw [List.foldl_cons, ih, sat_orF, or_assoc]
    exact Iff.rfl

theorem sat_reduce1_andF {l : List F} {g : F} (h : reduce1 andF l = some g) :
    Sat I ρ g ↔ SatAll I ρ l := by
  cases l <;> cases h
  exact sat_foldl_andF I ρ _ _

theorem sat_reduce1_orF {l : List F} {g : F} (h : reduce1 orF l = some g) :
    Sat I ρ g ↔ SatAny I ρ l := by
  cases l <;> cases h
  exact sat_foldl_orF I ρ _ _

end

/-- negating a constraint inverts its verdict -/
theorem sat_negF {Env} (I : Interp Env) (ρ : Env) (f g : F) (h : negF f = some g) :
    Sat I ρ g ↔ ¬ Sat I ρ f := by
  induction f generalizing ρ g with
  | conj fs ih =>
    obtain ⟨gs, h1, h2⟩ := Option.bind_eq_some_iff.1 h
    rw [sat_reduce1_orF I ρ h2, sat_conj, not_forall_mem]
    exact (sat_of_map_eq I ρ (negL_eq_some.1 h1) fun f hf => ih f hf ρ).2
  | disj fs ih =>
    obtain ⟨gs, h1, h2⟩ := Option.bind_eq_some_iff.1 h
    rw [sat_reduce1_andF I ρ h2, sat_disj, not_exists_mem]
    exact (sat_of_map_eq I ρ (negL_eq_some.1 h1) fun f hf => ih f hf ρ).1
  | all q f ih | ex q f ih | allInt q f ih | exInt q f ih =>
    obtain ⟨g', h1, rfl⟩ := Option.map_eq_some_iff.1 h
    -- the negation is the dual quantifier over the negated body
    simp only [Sat, ih _ g' h1, Classical.not_forall, not_exists, exists_prop, not_and]
  | smt s p =>
    cases h
    cases p <;> simp [Sat]
  | _ => cases h; simp [Sat]

theorem sat_negL {Env} (I : Interp Env) : ∀ (ρ : Env) (fs gs : List F), negL fs = some gs →
    (SatAny I ρ gs ↔ ¬ SatAll I ρ fs) ∧ (SatAll I ρ gs ↔ ¬ SatAny I ρ fs) := by
  intro ρ fs gs h
  rw [satAll_iff I ρ fs, satAny_iff I ρ fs, not_forall_mem, not_exists_mem]
  exact (sat_of_map_eq I ρ (negL_eq_some.1 h) fun f _ g => sat_negF I ρ f g).symm

/-- negation never raises on a well-formed formula -/
theorem negF_total (f : F) (h : WF f = true) : ∃ g, negF f = some g := by
  induction f with
  | conj fs ih | disj fs ih =>
    obtain ⟨hne, hfs⟩ := wf_args.1 h
    exact bind_reduce1_some _ hne (listHalf_total negL_eq_some fun f hf => ih f hf (hfs f hf))
  | all q f ih | ex q f ih | allInt q f ih | exInt q f ih =>
    obtain ⟨g, hg⟩ := ih h
    exact ⟨_, congrArg (Option.map _) hg⟩
  | _ => exact ⟨_, rfl⟩

theorem negL_total : ∀ (fs : List F), WFL fs = true → ∃ gs, negL fs = some gs ∧ gs.length = fs.length :=
  fun _ h => listHalf_total negL_eq_some fun f hf => negF_total f (WFL_iff.1 h f hf)

/-- NNF conversion preserves (resp. inverts, with `negate`) the verdict -/
theorem sat_nnf {Env} (I : Interp Env) (ρ : Env) (f g : F) (b : Bool) (h : nnf f b = some g) :
    Sat I ρ g ↔ (if b then ¬ Sat I ρ f else Sat I ρ f) := by
  induction f generalizing ρ g b with
  | neg f ih =>
    cases b
    · exact ih ρ g true h
    · exact (ih ρ g false h).trans Classical.not_not.symm
  | conj fs ih =>
    obtain ⟨gs, h1, h2⟩ := Option.bind_eq_some_iff.1 h
    have := sat_of_map_eq I ρ (nnfL_eq_some.1 h1) fun f hf g => ih f hf ρ g b
    rw [sat_conj]
    cases b
    · rw [sat_reduce1_andF I ρ h2, this.1]; rfl
    · rw [sat_reduce1_orF I ρ h2, this.2]; exact not_forall_mem.symm
  | disj fs ih =>
    obtain ⟨gs, h1, h2⟩ := Option.bind_eq_some_iff.1 h
    have := sat_of_map_eq I ρ (nnfL_eq_some.1 h1) fun f hf g => ih f hf ρ g b
    rw [sat_disj]
    cases b
    · rw [sat_reduce1_orF I ρ h2, this.2]; rfl
    · rw [sat_reduce1_andF I ρ h2, this.1]; exact not_exists_mem.symm
  | all q f ih | ex q f ih | allInt q f ih | exInt q f ih =>
    cases b
    · obtain ⟨g', h1, rfl⟩ := Option.map_eq_some_iff.1 h
      simp only [Sat, ih _ g' false h1, Bool.false_eq_true, if_false]
    · -- the ∀/∃ duality of `sat_negF`
      obtain ⟨g', h1, rfl⟩ := Option.map_eq_some_iff.1 h
      simp only [Sat, ih _ g' true h1, if_true, Classical.not_forall, not_exists, exists_prop, not_and]
  | smt s p =>
    cases h
    cases b <;> cases p <;> simp [Sat]
  | _ =>
    cases h
    cases b <;> simp [Sat]

theorem sat_nnfL {Env} (I : Interp Env) : ∀ (ρ : Env) (fs : List F) (b : Bool) (gs : List F),
    nnfL fs b = some gs →
    (b = true → (SatAny I ρ gs ↔ ¬ SatAll I ρ fs) ∧ (SatAll I ρ gs ↔ ¬ SatAny I ρ fs)) ∧
    (b = false → (SatAll I ρ gs ↔ SatAll I ρ fs) ∧ (SatAny I ρ gs ↔ SatAny I ρ fs)) := by
  intro ρ fs b gs h
  have := sat_of_map_eq I ρ (nnfL_eq_some.1 h) fun f _ g => sat_nnf I ρ f g b
  rw [satAll_iff I ρ fs, satAny_iff I ρ fs, not_forall_mem, not_exists_mem]
  constructor <;> rintro rfl
  · exact this.symm
  · exact this

theorem nnf_total (f : F) (b : Bool) (h : WF f = true) : ∃ g, nnf f b = some g := by
  induction f generalizing b with
  | neg f ih => exact ih (!b) h
  | conj fs ih | disj fs ih =>
    obtain ⟨hne, hfs⟩ := wf_args.1 h
    exact bind_reduce1_some _ hne (listHalf_total nnfL_eq_some fun f hf => ih f hf b (hfs f hf))
  | all q f ih | ex q f ih | allInt q f ih | exInt q f ih =>
    obtain ⟨g, hg⟩ := ih b h
    cases b <;> exact ⟨_, congrArg (Option.map _) hg⟩
  | _ => exact ⟨_, rfl⟩

theorem nnfL_total : ∀ (fs : List F) (b : Bool), WFL fs = true →
    ∃ gs, nnfL fs b = some gs ∧ gs.length = fs.length :=
  fun _ b h => listHalf_total nnfL_eq_some fun f hf => nnf_total f b (WFL_iff.1 h f hf)

section
variable {Env : Type} (I : Interp Env) (ρ : Env)

theorem satAll_filter_feq (x : F) (hx : Sat I ρ x) (l : List F) :
    SatAll I ρ (l.filter (fun y => !feq x y)) ↔ SatAll I ρ l := by
  simp only [satAll_iff, List.mem_filter]
  constructor
  · intro h f hf
    cases hq : feq x f with
    | true => exact (sat_feq I ρ x f hq).1 hx   -- what the filter drops is `==` to `x`, which holds
    | false => exact h f ⟨hf, by simp [hq]⟩
  · intro h f hf; exact h f hf.1

theorem sat_dedup (l : List F) : SatAll I ρ (dedup l) ↔ SatAll I ρ l := by
  induction l with
  | nil => exact Iff.rfl
  | cons x xs ih => exact and_congr_right fun hx => (satAll_filter_feq I ρ x hx _).trans ih

theorem sat_cube {c : List F} {k : F} (h : cube c = some k) : Sat I ρ k ↔ ∀ x ∈ c, Sat I ρ x := by
  obtain ⟨c', h1, rfl⟩ := Option.map_eq_some_iff.1 h
  rw [sat_foldl_andF, sat_dedup, sat_splitConj, sat_reduce1_andF I ρ h1, Sat, true_and, satAll_iff]

end

/-- DNF conversion preserves the verdict whenever it returns -/
theorem sat_dnf {Env} (I : Interp Env) (ρ : Env) (f g : F) (deep : Bool) (h : dnf f deep = .ok g) :
    Sat I ρ g ↔ Sat I ρ f := by
  induction f generalizing ρ g deep with
  | neg f =>
    unfold dnf at h
    split at h <;> cases h
    exact Iff.rfl
  | conj fs ih =>
    unfold dnf at h
    -- the `split`s take `dnf (conj fs)` apart: `match dnfL fs`, then the test that every argument is a single
    -- disjunct, then `match mapM' cube …`; `dnf_total` goes through the same three
    split at h
    · next e he => exact absurd (h ▸ he) (dnfL_ne_inl_ok g fs)
    · next ds hd =>
      have ihL := sat_of_map_eq I ρ (dnfL_eq_inr.1 hd) fun f hf g => ih f hf ρ g true
      dsimp only at h   -- `let lists := …`
      split at h
      · cases h; exact Iff.rfl
      · split at h
        · cases h
        · next cubes hc =>
          cases h
          have := sat_of_map_eq I ρ (mapM'_eq_some.1 hc) fun c _ k => sat_cube I ρ
          calc Sat I ρ (cubes.foldl orF ff)
            _ ↔ ∃ c ∈ product (ds.map splitDisj), ∀ x ∈ c, Sat I ρ x := by
              rw [sat_foldl_orF, this.2, Sat, false_or]
            _ ↔ ∀ d ∈ ds, ∃ x ∈ splitDisj d, Sat I ρ x := by
              rw [← forall_exists_iff_product, List.forall_mem_map]
            _ ↔ ∀ d ∈ ds, Sat I ρ d := by simp only [← satAny_iff, sat_splitDisj]
            _ ↔ Sat I ρ (.conj fs) := by rw [← satAll_iff, ihL.1, sat_conj]
  | disj fs ih =>
    unfold dnf at h
    split at h
    · next e he => exact absurd (h ▸ he) (dnfL_ne_inl_ok g fs)
    · next ds hd =>
      cases h
      rw [sat_foldl_orF, Sat, false_or, sat_disj]
      exact (sat_of_map_eq I ρ (dnfL_eq_inr.1 hd) fun f hf g => ih f hf ρ g true).2
  | all q f ih | ex q f ih =>
    unfold dnf at h
    split at h
    · split at h
      · next g' hg =>
        cases h
        simp only [Sat, ih _ g' true hg]
      · next hne => exact absurd h (hne g)
    · cases h; exact Iff.rfl
  | _ => cases h; exact Iff.rfl

theorem sat_dnfL {Env} (I : Interp Env) : ∀ (ρ : Env) (fs ds : List F), dnfL fs = .inr ds →
    (SatAll I ρ ds ↔ SatAll I ρ fs) ∧ (SatAny I ρ ds ↔ SatAny I ρ fs) := by
  intro ρ fs ds h
  rw [satAll_iff I ρ fs, satAny_iff I ρ fs]
  exact sat_of_map_eq I ρ (dnfL_eq_inr.1 h) fun f _ g => sat_dnf I ρ f g true

/-- DNF conversion never raises on a well-formed formula whose negations sit on predicate atoms
(n-ary conjunctions included: this is the statement that was false before fix 3599415) -/
theorem dnf_total (f : F) (deep : Bool) (hw : WF f = true) (hn : NegOnAtoms f = true) :
    ∃ g, dnf f deep = .ok g := by
  induction f generalizing deep with
  | neg f =>
    cases f with
    | atom a => exact ⟨_, rfl⟩
    | _ => cases hn
  | conj fs ih =>
    obtain ⟨hne, hfs⟩ := wf_args.1 hw
    obtain ⟨ds, h1, h2⟩ := listHalf_total dnfL_eq_inr fun f hf =>
      ih f hf true (hfs f hf) (NegOnAtomsL_iff.1 hn f hf)
    unfold dnf
    simp only [h1]
    split
    · exact ⟨_, rfl⟩
    · -- every combination has one element per argument, so no cube is a `reduce` of nothing
      have hds : ds.map splitDisj ≠ [] := fun h => by
        rw [List.map_eq_nil_iff] at h
        rw [h] at h2
        exact hne (List.length_eq_zero_iff.1 h2.symm)
      have hcube : ∀ c ∈ product (ds.map splitDisj), ∃ k, cube c = some k := fun c hc =>
        cube_some (ne_nil_of_mem_product hc hds)
      obtain ⟨ks, hks, _⟩ := listHalf_total mapM'_eq_some hcube
      rw [hks]; exact ⟨_, rfl⟩
  | disj fs ih =>
    obtain ⟨ds, h1, _⟩ := listHalf_total dnfL_eq_inr fun f hf =>
      ih f hf true ((wf_args.1 hw).2 f hf) (NegOnAtomsL_iff.1 hn f hf)
    unfold dnf
    rw [h1]
    exact ⟨_, rfl⟩
  | all q f ih | ex q f ih =>
    obtain ⟨g, hg⟩ := ih true hw hn
    unfold dnf
    rw [hg]
    cases deep <;> exact ⟨_, rfl⟩
  | _ => exact ⟨_, rfl⟩

theorem dnfL_total : ∀ (fs : List F), WFL fs = true → NegOnAtomsL fs = true →
    ∃ ds, dnfL fs = .inr ds ∧ ds.length = fs.length :=
  fun _ hw hn => listHalf_total dnfL_eq_inr fun f hf =>
    dnf_total f true (WFL_iff.1 hw f hf) (NegOnAtomsL_iff.1 hn f hf)

/-- double negation: `-(-f)` has the verdict of `f` under every interpretation, whatever shape the
two negations rewrote the formula into -/
theorem sat_negF_negF {Env} (I : Interp Env) (ρ : Env) (f g h : F)
    (h1 : negF f = some g) (h2 : negF g = some h) : Sat I ρ h ↔ Sat I ρ f := by
  rw [sat_negF I ρ g h h2, sat_negF I ρ f g h1]; exact Classical.not_not

/-- `convert_to_nnf(f, negate=True)` and `-f` agree under every interpretation -/
theorem sat_nnf_neg_eq_negF {Env} (I : Interp Env) (ρ : Env) (f g n : F)
    (h1 : nnf f true = some n) (h2 : negF f = some g) : Sat I ρ n ↔ Sat I ρ g := by
  rw [sat_nnf I ρ f n true h1, sat_negF I ρ f g h2]; simp

/-- the solver's normalisation pipeline NNF ∘ DNF preserves the verdict -/
theorem sat_dnf_nnf {Env} (I : Interp Env) (ρ : Env) (f n d : F) (deep : Bool)
    (h1 : nnf f false = some n) (h2 : dnf n deep = .ok d) : Sat I ρ d ↔ Sat I ρ f := by
  rw [sat_dnf I ρ n d deep h2, sat_nnf I ρ f n false h1]; simp

/-! Bound-variable renaming (`ensure_unique_bound_variables`).  The renaming procedure itself (name generation
with a shared mutable set of used names) is not modelled; every result of the real function is compared with
its input by `Alpha.alphaEq` (equal nameless forms), and formulas accepted by that checker have the same
meaning under EVERY interpretation of atoms and quantifier domains and in EVERY environment. -/

theorem rename_alphaEq_sound {V : Type} [Inhabited V] (I : Alpha.Interp V) (ρ : String → V) (f g : Alpha.NF)
    (h : Alpha.alphaEq f g = true) : Alpha.SatN I ρ f ↔ Alpha.SatN I ρ g := C07.roundtrip_same_meaning I ρ f g h

/-- the nameless form is faithful -/
theorem rename_toDB_sat {V : Type} [Inhabited V] (I : Alpha.Interp V) (ρ0 : String → V)
    (f : Alpha.NF) (st : List String) (σ : List V) (ρ : String → V)
    (hl : st.length = σ.length) (hρ : ∀ v, ρ v = Alpha.valOf ρ0 σ (Alpha.resolve st v)) :
    Alpha.SatN I ρ f ↔ Alpha.SatD I ρ0 σ (Alpha.toDB st f) := Alpha.toDB_sat_aux I ρ0 f st σ ρ hl hρ

/-- the checker accepts an unchanged formula -/
theorem rename_alphaEq_refl (f : Alpha.NF) : Alpha.alphaEq f f = true := (Alpha.alphaEq_iff f f).2 rfl

/-! non-vacuity: a ternary conjunction over a proper disjunction (so `dnf` distributes), a quantifier and a
negated atom -/
def exF : F := .conj [.disj [.atom 1, .smt 2 true], .all 0 (.disj [.atom 3, .neg (.atom 1)]), .smt 4 false]
example : WF exF = true ∧ NegOnAtoms exF = true := by decide +kernel
example : ∃ g, dnf exF false = .ok g := dnf_total exF false (by decide +kernel) (by decide +kernel)

/-! non-vacuity: a correct renaming is accepted, a capturing one is rejected
(`forall x: forall y in x: exists x_0: p(x_0, x)` renamed with the outer x ↦ x_0) -/
def rnIn : Alpha.NF := .all ["x"] "start" (.all ["y"] "x" (.ex ["x_0"] "start" (.atom 1 ["x_0", "x"])))
def rnGood : Alpha.NF := .all ["x_1"] "start" (.all ["y"] "x_1" (.ex ["x_0"] "start" (.atom 1 ["x_0", "x_1"])))
def rnCapture : Alpha.NF := .all ["x_0"] "start" (.all ["y"] "x_0" (.ex ["x_0"] "start" (.atom 1 ["x_0", "x_0"])))
example : Alpha.alphaEq rnIn rnGood = true ∧ Alpha.alphaEq rnIn rnCapture = false := by decide +kernel

end IslaVerif.C09
