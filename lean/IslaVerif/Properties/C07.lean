import IslaVerif.Proofs.Alpha
/-
C07 — unparsed constraints parse back to the same constraint.

The ANTLR parser, the emitter and `ISLaUnparser` are not modelled.  What is proved is the notion of
"the same constraint" with which the two formula objects of a round trip (parse, and
parse ∘ unparse ∘ parse) are compared: equality of nameless forms (`Alpha.alphaEq`) over formulas
with named tree / match-expression / numeric binders.
-/
namespace IslaVerif.C07

/-- formulas accepted by the checker have the same meaning under EVERY interpretation of the atoms and quantifier
domains and in EVERY environment: an accepted round trip cannot change the verdict on any tree, whatever the
grammar -/
theorem roundtrip_same_meaning {V : Type} [Inhabited V] (I : Alpha.Interp V) (ρ : String → V) (f g : Alpha.NF)
    (h : Alpha.alphaEq f g = true) : Alpha.SatN I ρ f ↔ Alpha.SatN I ρ g := by
  have hρ : ∀ v, ρ v = Alpha.valOf ρ ([] : List V) (Alpha.resolve [] v) := fun v => rfl
  rw [Alpha.toDB_sat_aux I ρ f [] [] ρ rfl hρ, Alpha.toDB_sat_aux I ρ g [] [] ρ rfl hρ,
    (Alpha.alphaEq_iff f g).1 h]

/-- the checker accepts an identical re-parse -/
theorem roundtrip_refl (f : Alpha.NF) : Alpha.alphaEq f f = true := (Alpha.alphaEq_iff f f).2 rfl

/-- the `→` half of `accepted_iff` -/
theorem accepted_iff_same_nameless_form (f g : Alpha.NF) (h : Alpha.alphaEq f g = true) :
    Alpha.toDB [] f = Alpha.toDB [] g := (Alpha.alphaEq_iff f g).1 h

theorem roundtrip_symm (f g : Alpha.NF) (h : Alpha.alphaEq f g = true) : Alpha.alphaEq g f = true :=
  (Alpha.alphaEq_iff g f).2 ((Alpha.alphaEq_iff f g).1 h).symm

/-- accepted round trips compose: parse → unparse → parse → unparse … never drifts -/
theorem roundtrip_trans (f g k : Alpha.NF) (h1 : Alpha.alphaEq f g = true) (h2 : Alpha.alphaEq g k = true) :
    Alpha.alphaEq f k = true :=
  (Alpha.alphaEq_iff f k).2 (((Alpha.alphaEq_iff f g).1 h1).trans ((Alpha.alphaEq_iff g k).1 h2))

theorem accepted_iff (f g : Alpha.NF) : Alpha.alphaEq f g = true ↔ Alpha.toDB [] f = Alpha.toDB [] g :=
  Alpha.alphaEq_iff f g

/-! non-vacuity: a re-parse that only renames bound variables is accepted; one that loses a
quantifier (the free `<start>` capture described in DESIGN.md §9 #8) is rejected -/
def f1 : Alpha.NF := .all ["v"] "start" (.atom 1 ["v", "start"])
def f1' : Alpha.NF := .all ["v_0"] "start" (.atom 1 ["v_0", "start"])
def f1bad : Alpha.NF := .atom 1 ["start", "start"]
example : Alpha.alphaEq f1 f1' = true ∧ Alpha.alphaEq f1 f1bad = false := by decide +kernel

end IslaVerif.C07
