import IslaVerif.Model.Grammar
/-
C21 — independent executable specifications of the properties formalized by the shipped case studies
(CSV, XML, reST, simple TAR).  They are written from the formats' own rules, NOT derived from the ISLa
constraints, and judge the STRING (CSV, XML, TAR) or the derivation tree (reST) of every input the
solver generates.
-/
namespace IslaVerif.Formats
open IslaVerif

/-! ### CSV: all records have the same number of fields (quote-aware) -/

/-- number of fields per record; `"` toggles quoting, `;` separates fields and a line feed ends a
record outside quotes -/
def csvScan : List Char → Bool → Nat → List Nat → List Nat
  | [], _, _, acc => acc.reverse
  | c :: cs, inQ, n, acc =>
    if c == '"' then csvScan cs (!inQ) n acc
    else if inQ then csvScan cs inQ n acc
    else if c == ';' then csvScan cs inQ (n + 1) acc
    else if c == '\n' then csvScan cs inQ 1 (n :: acc)
    else csvScan cs inQ n acc

def csvOk (s : List Char) : Bool :=
  match csvScan s false 1 [] with
  | [] => false
  | r :: rs => rs.all (· == r)

/-! ### XML: well-formedness, attribute uniqueness per tag, namespace prefixes declared in scope -/

inductive TagKind where | opening | closing | selfClosing
  deriving DecidableEq, Repr

structure Tag where
  kind : TagKind
  name : List Char
  attrs : List (List Char × List Char)
  deriving Repr

def takeUntil (stop : Char → Bool) : List Char → List Char × List Char
  | [] => ([], [])
  | c :: cs => if stop c then ([], c :: cs) else let (a, b) := takeUntil stop cs; (c :: a, b)

/-- attributes `name="value"` separated by blanks, up to `>` or `/>`; fuel = remaining length -/
def parseAttrs : Nat → List Char → List (List Char × List Char) → Option (TagKind × List (List Char × List Char) × List Char)
  | 0, _, _ => none
  | _ + 1, '>' :: rest, acc => some (.opening, acc.reverse, rest)
  | _ + 1, '/' :: '>' :: rest, acc => some (.selfClosing, acc.reverse, rest)
  | f + 1, ' ' :: rest, acc => parseAttrs f rest acc
  | f + 1, s, acc =>
    let (nm, r1) := takeUntil (fun c => c == '=' || c == '>' || c == ' ') s
    match r1 with
    | '=' :: '"' :: r2 =>
      let (v, r3) := takeUntil (· == '"') r2
      match r3 with
      | '"' :: r4 => if nm.isEmpty then none else parseAttrs f r4 ((nm, v) :: acc)
      | _ => none
    | _ => none

/-- a tag, the input starting right after `<` -/
def parseTag (s : List Char) : Option (Tag × List Char) :=
  match s with
  | '/' :: rest =>
    let (nm, r) := takeUntil (· == '>') rest
    match r with
    | '>' :: r' => if nm.isEmpty then none else some ({ kind := .closing, name := nm, attrs := [] }, r')
    | _ => none
  | _ =>
    let (nm, r) := takeUntil (fun c => c == ' ' || c == '>' || c == '/') s
    if nm.isEmpty then none
    else match parseAttrs (r.length + 1) r [] with
      | some (k, attrs, r') => some ({ kind := k, name := nm, attrs := attrs }, r')
      | none => none

def prefixOf (nm : List Char) : Option (List Char) :=
  if nm.contains ':' then some (takeUntil (· == ':') nm).1 else none

def xmlns : List Char := "xmlns".toList

/-- prefixes declared by the tag's own attributes `xmlns:p="…"` -/
def declared (t : Tag) : List (List Char) :=
  t.attrs.filterMap fun (n, _) =>
    match prefixOf n with
    | some p => if p == xmlns then some ((takeUntil (· == ':') n).2.drop 1) else none
    | none => none

def noDup : List (List Char) → Bool
  | [] => true
  | x :: xs => !xs.contains x && noDup xs

/-- attribute names unique; every prefix used by the tag name or an attribute name (other than
`xmlns` itself) is declared by this element or an enclosing one -/
def tagOk (scope : List (List Char)) (t : Tag) : Bool :=
  let sc := declared t ++ scope
  noDup (t.attrs.map (·.1)) &&
  (match prefixOf t.name with | some p => sc.contains p | none => true) &&
  t.attrs.all fun (n, _) => match prefixOf n with
    | some p => p == xmlns || sc.contains p
    | none => true

/-- scan with the stack of open elements (name, prefixes in scope); `seenRoot`: one root element -/
def xmlScan : Nat → List Char → List (List Char × List (List Char)) → Bool → Bool
  | 0, _, _, _ => false
  | _ + 1, [], stack, seenRoot => stack.isEmpty && seenRoot
  | f + 1, '<' :: rest, stack, seenRoot =>
    match parseTag rest with
    | none => false
    | some (t, rest') =>
      let scope := match stack with | [] => [] | (_, sc) :: _ => sc
      match t.kind with
      | .closing =>
        match stack with
        | (nm, _) :: st => nm == t.name && xmlScan f rest' st seenRoot
        | [] => false
      | .opening =>
        (stack.isEmpty → !seenRoot) && tagOk scope t && xmlScan f rest' ((t.name, declared t ++ scope) :: stack) true
      | .selfClosing =>
        (stack.isEmpty → !seenRoot) && tagOk scope t && xmlScan f rest' stack true
  | f + 1, c :: rest, stack, seenRoot =>
    -- character data: only inside an element, never a raw `>` mismatch check needed (text cannot contain `<`)
    !stack.isEmpty && c != '<' && xmlScan f rest stack seenRoot

def xmlOk (s : List Char) : Bool := xmlScan (s.length + 1) s [] false

/-! ### simple TAR: field widths, checksum, link targets -/

def octVal (ds : List Char) : Option Nat :=
  if ds.isEmpty || !ds.all (fun c => '0' ≤ c && c ≤ '7') then none
  else some (ds.foldl (fun a c => 8 * a + (c.toNat - 48)) 0)

def nul : Char := Char.ofNat 0

/-- a NUL-padded name field: a non-empty name without NUL followed by NULs only -/
def nameField (f : List Char) : Option (List Char) :=
  let (nm, pad) := takeUntil (· == nul) f
  if pad.all (· == nul) then some nm else none

structure TarEntry where
  name : List Char
  typeflag : Char
  linked : List Char
  deriving Repr

/-- one 216-character entry: name[100] checksum[8] typeflag[1] linked name[100] "CONTENT" -/
def tarEntry (e : List Char) : Option TarEntry :=
  if e.length != 216 then none else
  let name := e.take 100
  let chk := (e.drop 100).take 8
  let tf := (e.drop 108).headD ' '
  let linked := (e.drop 109).take 100
  let content := e.drop 209
  let header := e.take 209
  let blanked := name ++ List.replicate 8 ' ' ++ [tf] ++ linked
  let sum := (blanked.map Char.toNat).foldl (· + ·) 0
  match nameField name, nameField linked, octVal (chk.take 6) with
  | some nm, some ln, some v =>
    if !nm.isEmpty && header.length == 209 && chk.drop 6 == [nul, ' '] && v == sum && (tf == '0' || tf == '2') &&
       content == "CONTENT".toList
    then some { name := nm, typeflag := tf, linked := ln } else none
  | _, _, _ => none

def chunks (n : Nat) : Nat → List Char → List (List Char)
  | 0, _ => []
  | _, [] => []
  | f + 1, s => s.take n :: chunks n f (s.drop n)

def tarOk (s : List Char) : Bool :=
  if s.isEmpty || s.length % 216 != 0 then false else
  let es := (chunks 216 (s.length / 216 + 1) s).map tarEntry
  es.all Option.isSome &&
  let entries := es.filterMap id
  (List.range entries.length).all fun i =>
    match entries[i]? with
    | some e => e.typeflag != '2' || e.linked.isEmpty || (List.range entries.length).any fun j => j != i && (match entries[j]? with | some e' => e'.name == e.linked | none => false)
    | none => true

/-! ### reST (tree level): underline at least as long as the title, link targets unique and defined, numbering consecutive -/

def nodesOf (t : DTree) (sym : String) : List DTree := (t.paths.filter fun pu => pu.2.sym == sym).map (·.2)

def restUnderlineOk (g : Grammar) (t : DTree) : Bool :=
  (nodesOf t "<section-title>").all fun n =>
    match n.kids with
    | [ti, _, ul] => 0 < (ti.yieldC g).length && (ti.yieldC g).length ≤ (ul.yieldC g).length
    | _ => false

def idsBelow (g : Grammar) (t : DTree) (sym : String) : List (List Char) :=
  (nodesOf t sym).flatMap fun n => (nodesOf n "<id>").map fun i => i.yieldC g

def restLabelsUnique (g : Grammar) (t : DTree) : Bool := noDup (idsBelow g t "<label>")

def restRefsDefined (g : Grammar) (t : DTree) : Bool :=
  let defs := idsBelow g t "<label>"
  (idsBelow g t "<internal_reference>" ++ idsBelow g t "<internal_reference_nospace>").all defs.contains

def natVal (ds : List Char) : Option Nat :=
  if ds.isEmpty || !ds.all Char.isDigit then none else some (ds.foldl (fun a c => 10 * a + (c.toNat - 48)) 0)

/-- the numbers of the items of one enumeration, in document order -/
def enumNumbers (g : Grammar) (e : DTree) : List (Option Nat) :=
  (nodesOf e "<enumeration_item>").map fun it =>
    match (nodesOf it "<number>") with
    | n :: _ => natVal (n.yieldC g)
    | [] => none

def consecutiveFrom : List (Option Nat) → Bool
  | [] => true
  | [some _] => true   -- the formalized rule speaks about pairs of consecutive items only
  | some a :: some b :: rest => 0 < a && b == a + 1 && consecutiveFrom (some b :: rest)
  | _ => false

/-- top-level enumerations only (an enumeration's items contain no nested enumeration in the shipped grammar) -/
def restNumberingOk (g : Grammar) (t : DTree) : Bool :=
  (nodesOf t "<enumeration>").all fun e =>
    -- nested `<enumeration>` nodes repeat the tail of the list: judge maximal ones through their own items
    consecutiveFrom (enumNumbers g e)

end IslaVerif.Formats
