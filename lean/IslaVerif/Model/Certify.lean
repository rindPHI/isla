import IslaVerif.Model.Sem
/-
The solution certifier (C01, C18, C21): a tree is accepted exactly when it is a closed derivation
tree of the grammar rooted in the requested start symbol and the reference evaluator decides the
constraint to be TRUE on it.  Properties/C01.lean (`certify_sound`): acceptance implies membership in
the grammar's language and satisfaction of the specification `Sat`.
-/
namespace IslaVerif.Sem
open IslaVerif

/-- the four clauses, separately (the harness reports which one fails) -/
structure CertFlags where
  valid : Bool
  closed : Bool
  rootOk : Bool
  verdict : TV
  deriving Repr

def certFlags (w : World) (startSym const : String) (f : Fm) : CertFlags :=
  { valid := w.root.valid w.g
    closed := w.root.closed
    rootOk := w.root.sym == startSym
    verdict := evalRef w [(const, Bind.path [])] f }

def certify (w : World) (startSym const : String) (f : Fm) : Bool :=
  let c := certFlags w startSym const f
  c.valid && c.closed && c.rootOk && (c.verdict == some true)

end IslaVerif.Sem
