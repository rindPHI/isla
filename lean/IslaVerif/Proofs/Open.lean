import IslaVerif.Model.Open
import IslaVerif.Proofs.Sem
import IslaVerif.Proofs.TreeOps
import IslaVerif.Proofs.Targets
/-
A definite verdict of `evalOpen` on a partial tree is the verdict of `evalRef` on every id-preserving valid
extension `t'` of it, by one induction on `f`. Three facts carry it: a closed subtree sits unchanged in every
extension (SMT atoms, the arms guarded by `w.root.closed`); the path-only predicates do not look at the tree;
the domain of a tree quantifier only gains elements (`domain_mono`), and none where no open leaf can reach the
quantified symbol (`domain_exact`).
-/
namespace IslaVerif.Sem

def World.withRoot (w : World) (t' : DTree) : World := { w with root := t' }

theorem withRoot_root (w : World) (t' : DTree) : (w.withRoot t').root = t' := rfl
theorem withRoot_g (w : World) (t' : DTree) : (w.withRoot t').g = w.g := rfl
theorem withRoot_isNT (w : World) (t' : DTree) : (w.withRoot t').isNT = w.isNT := rfl
theorem withRoot_intBound (w : World) (t' : DTree) : (w.withRoot t').intBound = w.intBound := rfl

theorem withRoot_self (w : World) : w.withRoot w.root = w := by cases w; rfl

/-- `b` gives every definite answer that `a` gives (the information order of Kleene's logic) -/
def TV.le (a b : TV) : Prop := ∀ v, a = some v → b = some v

theorem TV.none_le {a : TV} : TV.le none a := nofun

theorem TV.le_guard {c : Prop} [Decidable c] {a a' : TV} (h : c → a' = a) :
    TV.le (if c then a else none) a' := by
  split
  · rename_i hc
    exact fun _ hv => h hc ▸ hv
  · exact TV.none_le

theorem tvNot_mono {a a' : TV} (h : TV.le a a') : TV.le (tvNot a) (tvNot a') :=
  fun v hv => (tvNot_eq a' v).2 (h _ ((tvNot_eq a v).1 hv))

theorem tvAnd_mono {a a' b b' : TV} (ha : TV.le a a') (hb : TV.le b b') : TV.le (tvAnd a b) (tvAnd a' b')
  | true, h => (tvAnd_eq_true a' b').2 (((tvAnd_eq_true a b).1 h).imp (ha _) (hb _))
  | false, h => (tvAnd_eq_false a' b').2 (((tvAnd_eq_false a b).1 h).imp (ha _) (hb _))

theorem tvOr_mono {a a' b b' : TV} (ha : TV.le a a') (hb : TV.le b b') : TV.le (tvOr a b) (tvOr a' b')
  | true, h => (tvOr_eq_true a' b').2 (((tvOr_eq_true a b).1 h).imp (ha _) (hb _))
  | false, h => (tvOr_eq_false a' b').2 (((tvOr_eq_false a b).1 h).imp (ha _) (hb _))

theorem foldAnd_false_mono {α : Type} {F G : α → TV} {l l' : List α} (hFG : ∀ x, TV.le (F x) (G x))
    (hl : l ⊆ l') (h : l.foldr (fun x acc => tvAnd (F x) acc) (some true) = some false) :
    l'.foldr (fun x acc => tvAnd (G x) acc) (some true) = some false :=
  let ⟨x, hx, hF⟩ := (foldAnd_eq_false F l).1 h
  (foldAnd_eq_false G l').2 ⟨x, hl hx, hFG x _ hF⟩

theorem foldOr_true_mono {α : Type} {F G : α → TV} {l l' : List α} (hFG : ∀ x, TV.le (F x) (G x))
    (hl : l ⊆ l') (h : l.foldr (fun x acc => tvOr (F x) acc) (some false) = some true) :
    l'.foldr (fun x acc => tvOr (G x) acc) (some false) = some true :=
  let ⟨x, hx, hF⟩ := (foldOr_eq_true F l).1 h
  (foldOr_eq_true G l').2 ⟨x, hl hx, hFG x _ hF⟩

theorem foldAnd_mono {α : Type} {F G : α → TV} {l l' : List α} (hFG : ∀ x, TV.le (F x) (G x))
    (hl : l ⊆ l') (hl' : l' ⊆ l) :
    TV.le (l.foldr (fun x acc => tvAnd (F x) acc) (some true))
      (l'.foldr (fun x acc => tvAnd (G x) acc) (some true))
  | true, h => (foldAnd_eq_true G l').2 fun x hx => hFG x _ ((foldAnd_eq_true F l).1 h x (hl' hx))
  | false, h => foldAnd_false_mono hFG hl h

theorem foldOr_mono {α : Type} {F G : α → TV} {l l' : List α} (hFG : ∀ x, TV.le (F x) (G x))
    (hl : l ⊆ l') (hl' : l' ⊆ l) :
    TV.le (l.foldr (fun x acc => tvOr (F x) acc) (some false))
      (l'.foldr (fun x acc => tvOr (G x) acc) (some false))
  | true, h => foldOr_true_mono hFG hl h
  | false, h => (foldOr_eq_false G l').2 fun x hx => hFG x _ ((foldOr_eq_false F l).1 h x (hl' hx))

theorem TV.le_tvAnd_none {a a' : TV} (h : a = some false → a' = some false) : TV.le (tvAnd a none) a'
  | true, hv => nomatch ((tvAnd_eq_true a none).1 hv).2
  | false, hv => h (((tvAnd_eq_false a none).1 hv).resolve_right nofun)

theorem TV.le_tvOr_none {a a' : TV} (h : a = some true → a' = some true) : TV.le (tvOr a none) a'
  | true, hv => h (((tvOr_eq_true a none).1 hv).resolve_right nofun)
  | false, hv => nomatch ((tvOr_eq_false a none).1 hv).2

theorem prefix_closedL_eq : ∀ (ks ks' : List DTree), DTree.hasOpenL ks = false →
    DTree.idPrefixOfL ks ks' = true → ks' = ks := by
  intro ks ks' hc h
  have := DTree.idPrefixOf_closed (.node 0 "" ks) (.node 0 "" ks') hc (by rw [DTree.idPrefixOf, h]; rfl)
  cases this
  rfl

theorem completes_spec {g : Grammar} {t t' : DTree} (h : completes g t t' = true) :
    DTree.idPrefixOf t t' = true ∧ t'.closed = true ∧ t'.valid g = true := by
  simp only [completes, Bool.and_eq_true] at h
  exact ⟨h.1.1, h.1.2, h.2⟩

theorem evalRef_of_closed (w : World) (t' : DTree) (hp : DTree.idPrefixOf w.root t' = true)
    (β : Env) (f : Fm) (hcl : w.root.closed = true) : evalRef (w.withRoot t') β f = evalRef w β f := by
  rw [DTree.idPrefixOf_closed w.root t' ((DTree.closed_iff _).1 hcl) hp, withRoot_self]

theorem strOf_closedAt (w : World) (t' : DTree) (hp : DTree.idPrefixOf w.root t' = true)
    (β : Env) (v : String) (h : closedAt w β v = true) :
    (w.withRoot t').strOf β v = w.strOf β v := by
  unfold World.strOf
  split
  · -- bound to a path: `closedAt` says that the subtree there is closed
    rename_i p hb
    unfold closedAt at h
    simp only [hb] at h
    split at h
    · rename_i u hg
      rw [withRoot_root, withRoot_isNT, DTree.idPrefixOf_get_closed hp hg h, hg]
    · cases h
  · rfl
  · rfl

mutual
-- Trap: `unfold toTerm` makes Lean derive the unfolding lemma of its 31-arm match on string literals.
-- `toTerm`, `termVars` and `termVarsL` compute on a constructor, so the hypotheses fit as they are.
-- In the `.app` arm `whnf` turns the left side into the body `match toTermL σ args with …`; with
-- `toTermL σ' args` rewritten into it, it is what the right side computes to, hence `rfl`.
theorem toTerm_congr (σ σ' : String → Option (List Char)) : ∀ (t : TermV),
    (∀ v ∈ termVars t, σ v = σ' v) → toTerm σ t = toTerm σ' t
  | .var n, h => congrArg (Option.map Smt.Term.strLit) (h n (List.Mem.head _))
  | .str _, _ => rfl
  | .int _, _ => rfl
  | .bool _, _ => rfl
  | .inre s r, h => congrArg (Option.map fun s' => Smt.Term.inRe s' r) (toTerm_congr σ σ' s h)
  | .app op args, h => by
    conv => lhs; whnf
    rw [toTermL_congr σ σ' args h]
    rfl
theorem toTermL_congr (σ σ' : String → Option (List Char)) : ∀ (ts : List TermV),
    (∀ v ∈ termVarsL ts, σ v = σ' v) → toTermL σ ts = toTermL σ' ts
  | [], _ => rfl
  | t :: ts, h => by
    unfold toTermL
    rw [toTerm_congr σ σ' t fun v hv => h v (List.mem_append_left _ hv),
      toTermL_congr σ σ' ts fun v hv => h v (List.mem_append_right _ hv)]
end

theorem evalSmt_stable (w : World) (t' : DTree) (hp : DTree.idPrefixOf w.root t' = true)
    (β : Env) (t : TermV) (h : (termVars t).all (closedAt w β) = true) :
    evalSmt (w.withRoot t') β t = evalSmt w β t := by
  unfold evalSmt
  rw [toTerm_congr ((w.withRoot t').strOf β) (w.strOf β) t]
  intro v hv
  exact strOf_closedAt w t' hp β v (List.all_eq_true.1 h v hv)

theorem evalPred_pathOnly (w w' : World) (β : Env) (name : String) (args : List Arg)
    (h : pathOnly name = true) : evalPred w' β name args = evalPred w β name args := by
  -- the three names whose arms read `w.root`
  have hno : pathOnly "consecutive" = false ∧ pathOnly "nth" = false ∧ pathOnly "level" = false := by
    decide +kernel
  unfold evalPred
  split
  -- `before`, `after`, `same_position`, `different_position`, `inside`, `direct_child`
  · rfl
  · rfl
  · rfl
  · rfl
  · rfl
  · rfl
  -- `consecutive`, `nth`, `level`
  · exact absurd (hno.1.symm.trans h) Bool.false_ne_true
  · exact absurd (hno.2.1.symm.trans h) Bool.false_ne_true
  · exact absurd (hno.2.2.symm.trans h) Bool.false_ne_true
  -- any other name or arity: `none` in both worlds
  · rfl

theorem mightGrow_false {w : World} {p q : Path} {ty s : String} {sub : DTree} {i : Nat}
    (hs : w.root.get p = some sub) (hg : mightGrow w p ty = some false)
    (hl : sub.get q = some (.openLeaf i s)) : ¬ Targets.Reach w.g s ty := by
  intro hreach
  unfold mightGrow at hg
  simp only [hs] at hg
  -- on the `mapM` of `Targets.reaches` over the symbols of the open leaves: `none` certifies nothing
  split at hg
  · cases hg
  · rename_i rs hm
    rw [List.any_eq_true.2 ⟨true, Targets.true_mem_of_reach_openLeaf hm hl rfl hreach, rfl⟩] at hg
    cases hg

theorem domain_mono (w : World) (t' : DTree) (hp : DTree.idPrefixOf w.root t' = true)
    (β : Env) (ty inVar : String) (ps : List Path) (h : domain w β ty inVar = some ps) :
    ∃ ps', domain (w.withRoot t') β ty inVar = some ps' ∧ ps ⊆ ps' := by
  obtain ⟨p, sub, hb, hsub, _⟩ := domain_eq_some_iff.1 h
  obtain ⟨sub', hsub', hpp⟩ := DTree.idPrefixOf_get p w.root t' sub hp hsub
  have hd' := (domain_eq_some_iff (w := w.withRoot t') (ty := ty)).2 ⟨p, sub', hb, hsub', rfl⟩
  refine ⟨_, hd', fun r hr => ?_⟩
  obtain ⟨q, x, hx, hsym, rfl⟩ := (mem_domain hb hsub h r).1 hr
  obtain ⟨x', hx', hxx⟩ := DTree.idPrefixOf_get q sub sub' x hpp hx
  exact (mem_domain hb hsub' hd' _).2 ⟨q, x', hx', (DTree.idPrefixOf_id_sym_eq hxx).2.trans hsym, rfl⟩

theorem domain_exact (w : World) (t' : DTree) (h0 : Grammar.isNT w.g "" = false)
    (hp : DTree.idPrefixOf w.root t' = true) (hv : t'.valid w.g = true)
    (β : Env) (ty inVar : String) (p : Path) (ps ps' : List Path)
    (hb : β.get inVar = some (.path p)) (hd : domain w β ty inVar = some ps)
    (hd' : domain (w.withRoot t') β ty inVar = some ps')
    (hnt : Grammar.isNT w.g ty = true) (hg : mightGrow w p ty = some false) :
    ∀ r ∈ ps', r ∈ ps := by
  intro r hr
  obtain ⟨sub, hsub, _⟩ := Option.map_eq_some_iff.1 (domain_of_get ty hb ▸ hd)
  obtain ⟨sub', hsub', hpp⟩ := DTree.idPrefixOf_get p w.root t' sub hp hsub
  obtain ⟨q, x', hx', hsym, rfl⟩ := (mem_domain hb hsub' hd' r).1 hr
  rcases DTree.idPrefixOf_get_inv q sub sub' x' hpp hx' with
    ⟨x, hx, hxx⟩ | ⟨q0, q1, i, s, u', rfl, hne, g1, g2, g3, g4⟩
  · exact (mem_domain hb hsub hd _).2 ⟨q, x, hx, (DTree.idPrefixOf_id_sym_eq hxx).2.symm.trans hsym, rfl⟩
  · -- a new node below an open leaf would make `ty` reachable from that leaf's symbol
    have hu'v : u'.valid w.g = true :=
      DTree.valid_get w.g q0 sub' u' (DTree.valid_get w.g p t' sub' hv hsub') g2
    have hreach := Targets.valid_reach w.g h0 q1 u' x' hu'v g4 hne (by rw [hsym]; exact hnt)
    rw [g3, hsym] at hreach
    exact absurd hreach (mightGrow_false hsub hg g1)

-- Each statement of the block is `TV.le (evalOpen w β f) (evalRef (w.withRoot t') β f)` (for the list
-- halves: `evalOpenAll` with `evalAll`, `evalOpenAny` with `evalAny`) written out; the lemmas about
-- `TV.le` apply by unfolding.
mutual
theorem evalOpen_stable_aux (w : World) (t' : DTree) (h0 : Grammar.isNT w.g "" = false)
    (hp : DTree.idPrefixOf w.root t' = true) (hv : t'.valid w.g = true) :
    ∀ (β : Env) (f : Fm) (b : Bool), evalOpen w β f = some b → evalRef (w.withRoot t') β f = some b
  | β, .smt t => TV.le_guard (evalSmt_stable w t' hp β t)
  | β, .pred name args => TV.le_guard fun hor =>
    (Bool.or_eq_true_iff.1 hor).elim (evalPred_pathOnly w _ β name args) (evalRef_of_closed w t' hp β _)
  | β, .count tv needle num => TV.le_guard (evalRef_of_closed w t' hp β _)
  | β, .neg f => tvNot_mono (evalOpen_stable_aux w t' h0 hp hv β f)
  | β, .conj fs => evalOpenAll_stable_aux w t' h0 hp hv β fs
  | β, .disj fs => evalOpenAny_stable_aux w t' h0 hp hv β fs
  | β, .all v ty inVar none f => by
    unfold evalOpen
    -- on `β.get inVar, domain w β ty inVar`: a verdict needs a bound `in` tree and its domain
    split
    · rename_i p ps hb hd
      obtain ⟨ps', hd', hmono⟩ := domain_mono w t' hp β ty inVar ps hd
      have ih := (evalOpen_stable_aux w t' h0 hp hv · f)
      unfold evalRef
      rw [hd']
      -- on `Grammar.isNT w.g ty, mightGrow w p ty`
      split
      · -- `true, some false`: no growth, the extension has the same instances
        rename_i hnt hg
        exact foldAnd_mono ih (List.map_subset _ hmono)
          (List.map_subset _ (domain_exact w t' h0 hp hv β ty inVar p ps ps' hb hd hd' hnt hg))
      · -- otherwise the verdict is `tvAnd inst none`, and a refuting instance stays one
        exact TV.le_tvAnd_none (foldAnd_false_mono ih (List.map_subset _ hmono))
    · exact TV.none_le
  | β, .ex v ty inVar none f => by
    unfold evalOpen
    split
    · rename_i p ps hb hd
      obtain ⟨ps', hd', hmono⟩ := domain_mono w t' hp β ty inVar ps hd
      have ih := (evalOpen_stable_aux w t' h0 hp hv · f)
      unfold evalRef
      rw [hd']
      split
      · rename_i hnt hg
        exact foldOr_mono ih (List.map_subset _ hmono)
          (List.map_subset _ (domain_exact w t' h0 hp hv β ty inVar p ps ps' hb hd hd' hnt hg))
      · exact TV.le_tvOr_none (foldOr_true_mono ih (List.map_subset _ hmono))
    · exact TV.none_le
  | β, .all v ty inVar (some ms) f => TV.le_guard (evalRef_of_closed w t' hp β _)
  | β, .ex v ty inVar (some ms) f => TV.le_guard (evalRef_of_closed w t' hp β _)
  | β, .allInt v f => by
    unfold evalOpen evalRef
    -- on the fold of `evalOpen`: only `some false` gives a verdict, and then `evalRef` finds the same
    split
    · rename_i hfold
      rw [withRoot_intBound, foldAnd_false_mono (evalOpen_stable_aux w t' h0 hp hv · f) (List.Subset.refl _) hfold]
      exact fun _ h => h
    · exact TV.none_le
  | β, .exInt v f => by
    unfold evalOpen evalRef
    split
    · rename_i hfold
      rw [withRoot_intBound, foldOr_true_mono (evalOpen_stable_aux w t' h0 hp hv · f) (List.Subset.refl _) hfold]
      exact fun _ h => h
    · exact TV.none_le
theorem evalOpenAll_stable_aux (w : World) (t' : DTree) (h0 : Grammar.isNT w.g "" = false)
    (hp : DTree.idPrefixOf w.root t' = true) (hv : t'.valid w.g = true) :
    ∀ (β : Env) (fs : List Fm) (b : Bool), evalOpenAll w β fs = some b →
      evalAll (w.withRoot t') β fs = some b
  | _, [] => fun _ h => h
  | β, f :: fs => tvAnd_mono (evalOpen_stable_aux w t' h0 hp hv β f) (evalOpenAll_stable_aux w t' h0 hp hv β fs)
theorem evalOpenAny_stable_aux (w : World) (t' : DTree) (h0 : Grammar.isNT w.g "" = false)
    (hp : DTree.idPrefixOf w.root t' = true) (hv : t'.valid w.g = true) :
    ∀ (β : Env) (fs : List Fm) (b : Bool), evalOpenAny w β fs = some b →
      evalAny (w.withRoot t') β fs = some b
  | _, [] => fun _ h => h
  | β, f :: fs => tvOr_mono (evalOpen_stable_aux w t' h0 hp hv β f) (evalOpenAny_stable_aux w t' h0 hp hv β fs)
end

end IslaVerif.Sem
