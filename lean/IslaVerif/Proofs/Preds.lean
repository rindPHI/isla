import IslaVerif.Model.Preds
import IslaVerif.Proofs.Tree
/-
What the structural predicates mean is said on paths alone: `DocBefore`, the two paths part at some index with
the smaller child first, is document order, and the loops of `is_nth`, `consecutive` and `level_check` are
read against it. Two of them look only below the longest common prefix `lcp p q`: every position between
`p` and `q` lies there (`lcp_prefix_between`), and the common prefixes are its prefixes (`le_lcp_length`).
-/
namespace IslaVerif.C04
open IslaVerif.Preds

/-- strictly earlier in document order, neither below the other -/
def DocBefore (p q : Path) : Prop :=
  ∃ (r : Path) (a b : Nat) (p' q' : Path), p = r ++ a :: p' ∧ q = r ++ b :: q' ∧ a < b

/-- in the pre-order list `l` of (relative path, subtree), the entry at `rel` exists and is the
`n`-th entry (1-based) labelled `nt`, counting up to and including it -/
def NthSpec (nt : String) (n : Nat) (rel : Path) (l : List (Path × DTree)) : Prop :=
  ∃ pre x post, l = pre ++ (rel, x) :: post ∧ (∀ e ∈ pre, e.1 ≠ rel) ∧
    ((pre ++ [(rel, x)]).filter (fun e => e.2.sym == nt)).length = n

/-- the `nt`-labelled proper ancestors of the node at `path` that lie strictly below the
prefix of length `k` (as prefix lengths) -/
def OccsSpec (t : DTree) (nt : String) (k : Nat) (path : Path) (i : Nat) : Prop :=
  k < i ∧ i < path.length ∧ labelAt t (path.take i) = some nt

/-- the five cases of the comment in `level_check` (isla_predicates.py); `none1` / `none2` say that the
remaining path fragment of the first / second argument does not point to any `nt` node -/
def LevelCondSpec (op : LevelOp) (none1 none2 : Prop) : Prop :=
  match op with
  | .EQ => none1 ∧ none2
  | .GE => none1
  | .LE => none2
  | .GT => none1 ∧ ¬ none2
  | .LT => none2 ∧ ¬ none1

/-- `level(op, nt, p, q)` as the comment in `level_check` defines it: a common prefix of both paths, of length
`k`, points to an `nt` node and the remaining fragments satisfy the condition of `op`. `k = 0` is there
because "it is also possible to be outside of any `nonterminal` scope … so, we also consider the empty
prefix": the code tries the empty prefix whatever the root's label is. -/
def LevelSpec (t : DTree) (op : LevelOp) (nt : String) (p q : Path) : Prop :=
  ∃ k, (k = 0 ∨ (k ≤ p.length ∧ k ≤ q.length ∧ p.take k = q.take k ∧ labelAt t (p.take k) = some nt)) ∧
    LevelCondSpec op (¬ ∃ i, OccsSpec t nt k p i) (¬ ∃ i, OccsSpec t nt k q i)

theorem docBefore_nil_left (q : Path) : ¬ DocBefore [] q := by
  rintro ⟨r, a, b, p', q', h1, _, _⟩
  cases r <;> cases h1

theorem docBefore_nil_right (p : Path) : ¬ DocBefore p [] := by
  rintro ⟨r, a, b, p', q', _, h2, _⟩
  cases r <;> cases h2

theorem docBefore_cons (a b : Nat) (p q : Path) :
    DocBefore (a :: p) (b :: q) ↔ a < b ∨ (a = b ∧ DocBefore p q) := by
  constructor
  · rintro ⟨r, a', b', p', q', h1, h2, h3⟩
    cases r with
    | nil =>
      cases h1
      cases h2
      exact Or.inl h3
    | cons c r =>
      cases h1
      cases h2
      exact Or.inr ⟨rfl, r, a', b', p', q', rfl, rfl, h3⟩
  · rintro (h | ⟨rfl, r, a', b', p', q', rfl, rfl, h3⟩)
    · exact ⟨[], a, b, p, q, rfl, rfl, h⟩
    · exact ⟨a :: r, a', b', p', q', rfl, rfl, h3⟩

theorem isBefore_iff (p q : Path) : isBefore p q = true ↔ DocBefore p q := by
  fun_induction isBefore p q with
  | case1 q => simp [docBefore_nil_left]
  | case2 a p => simp [docBefore_nil_right]
  | case3 a p b q h => simp [docBefore_cons, h]
  | case4 a p b q h1 h2 =>
    rw [docBefore_cons]
    constructor
    · exact nofun
    · rintro (h | ⟨rfl, _⟩)
      · exact absurd h h1
      · exact absurd h2 (Nat.lt_irrefl _)
  | case5 a p b q h1 h2 ih =>
    have : a = b := by omega
    simp [docBefore_cons, ih, this]

theorem docBefore_not_prefix {p q : Path} (h : DocBefore p q) : ¬ p <+: q ∧ ¬ q <+: p := by
  obtain ⟨r, a, b, p', q', rfl, rfl, h3⟩ := h
  constructor
  · intro h
    rw [List.prefix_append_right_inj, List.cons_prefix_cons] at h
    exact Nat.ne_of_lt h3 h.1
  · intro h
    rw [List.prefix_append_right_inj, List.cons_prefix_cons] at h
    exact Nat.ne_of_gt h3 h.1

theorem nthLoop_append (nt : String) (n : Nat) (rel : Path) (x : DTree) (post : List (Path × DTree))
    (hx : x.sym = nt) (pre : List (Path × DTree)) (hpre : ∀ e ∈ pre, e.1 ≠ rel) (idx : Nat) :
    nthLoop nt n rel (pre ++ (rel, x) :: post) idx =
      (idx + (pre.filter (fun e => e.2.sym == nt)).length + 1 == n) := by
  induction pre generalizing idx with
  | nil =>
    rw [List.nil_append, nthLoop, if_pos (beq_iff_eq.2 rfl), hx, if_pos (beq_iff_eq.2 rfl)]
    rfl
  | cons e pre ih =>
    have hk : idx + ((e :: pre).filter (fun e => e.2.sym == nt)).length =
        (if e.2.sym == nt then idx + 1 else idx) + (pre.filter (fun e => e.2.sym == nt)).length := by
      rw [List.filter_cons]
      split
      · rw [List.length_cons]
        omega
      · rfl
    rw [List.cons_append, nthLoop, hk]
    generalize (if e.2.sym == nt then idx + 1 else idx) = k
    rw [if_neg (fun h => hpre e List.mem_cons_self (beq_iff_eq.1 h)),
      ih (fun e he => hpre e (List.mem_cons_of_mem _ he))]
    -- the early exit `k ≥ n` is right because the entry at `rel` itself still counts
    split
    · rename_i h
      exact (beq_eq_false_iff_ne.2 (by omega)).symm
    · rfl

theorem nthLoop_absent (nt : String) (n : Nat) (rel : Path) (l : List (Path × DTree))
    (h : ∀ e ∈ l, e.1 ≠ rel) (idx : Nat) : nthLoop nt n rel l idx = false := by
  induction l generalizing idx with
  | nil => rfl
  | cons e l ih =>
    rw [nthLoop, beq_eq_false_iff_ne.2 (h e List.mem_cons_self),
      ih (fun e he => h e (List.mem_cons_of_mem _ he)), if_neg Bool.false_ne_true, ite_self]

theorem nthLoop_iff (nt : String) (n : Nat) (rel : Path) (l : List (Path × DTree)) (idx : Nat)
    (hl : ∀ e ∈ l, e.1 = rel → e.2.sym = nt) :
    nthLoop nt n rel l idx = true ↔
      ∃ pre x post, l = pre ++ (rel, x) :: post ∧ (∀ e ∈ pre, e.1 ≠ rel) ∧
        idx + ((pre ++ [(rel, x)]).filter (fun e => e.2.sym == nt)).length = n := by
  have key : ∀ pre x post, l = pre ++ (rel, x) :: post → (∀ e ∈ pre, e.1 ≠ rel) →
      (nthLoop nt n rel l idx = true ↔
        idx + ((pre ++ [(rel, x)]).filter (fun e => e.2.sym == nt)).length = n) := by
    rintro pre x post rfl hpre
    have hx : x.sym = nt := hl (rel, x) (List.mem_append_right _ List.mem_cons_self) rfl
    rw [nthLoop_append nt n rel x post hx pre hpre, beq_iff_eq, List.filter_append, List.length_append,
      List.filter_cons, if_pos (beq_iff_eq.2 hx), List.filter_nil, List.length_singleton, Nat.add_assoc]
  constructor
  · intro h
    cases hf : l.find? (·.1 == rel) with
    | none =>
      rw [nthLoop_absent nt n rel l (fun e he h => List.find?_eq_none.1 hf e he (beq_iff_eq.2 h))] at h
      cases h
    | some e =>
      obtain ⟨he, pre, post, hl', hpre⟩ := List.find?_eq_some_iff_append.1 hf
      obtain ⟨path, x⟩ := e
      have hp : rel = path := (beq_iff_eq.1 he).symm
      subst hp
      have hpre' : ∀ e ∈ pre, e.1 ≠ rel := fun e he => bne_iff_ne.1 (hpre e he)
      exact ⟨pre, x, post, hl', hpre', (key pre x post hl' hpre').1 h⟩
  · rintro ⟨pre, x, post, hl', hpre, h⟩
    exact (key pre x post hl' hpre).2 h

theorem isNth_append_eq_nthLoop (isNT : String → Bool) (t : DTree) (n : Nat) (q s : Path) (u v : DTree)
    (hu : t.get (q ++ s) = some u) (hv : t.get q = some v) (hnt : isNT u.sym = true) :
    isNth isNT t n (q ++ s) q = .val (nthLoop u.sym n s v.paths 0) := by
  have hin : inTree (q ++ s) q = true := by rw [inTree, List.take_left]; exact beq_iff_eq.2 rfl
  rw [isNth, hin, hu, hv]
  simp only [hnt, Bool.not_true, Bool.false_eq_true, if_false, List.drop_left]

theorem lcp_prefix (p q : Path) : lcp p q <+: p ∧ lcp p q <+: q := by
  fun_induction lcp p q with
  | case1 a p b q h ih =>
    cases beq_iff_eq.1 h
    exact ⟨List.cons_prefix_cons.2 ⟨rfl, ih.1⟩, List.cons_prefix_cons.2 ⟨rfl, ih.2⟩⟩
  | case2 => exact ⟨List.nil_prefix, List.nil_prefix⟩
  | case3 => exact ⟨List.nil_prefix, List.nil_prefix⟩

theorem lcp_prefix_right (p q : Path) : lcp p q <+: q := (lcp_prefix p q).2

theorem lcp_prefix_between (p l q : Path) (h1 : DocBefore p l) (h2 : DocBefore l q) : lcp p q <+: l := by
  induction p generalizing l q with
  | nil => exact List.nil_prefix
  | cons a p ih =>
    cases q with
    | nil => exact List.nil_prefix
    | cons b q =>
      cases l with
      | nil => exact absurd h1 (docBefore_nil_right _)
      | cons c l =>
        rw [lcp]
        split
        · rename_i hab
          cases beq_iff_eq.1 hab
          rw [docBefore_cons] at h1 h2
          -- `a ≤ c ≤ a` leaves `c = a`, and the order is decided further down
          rcases h1 with h1 | ⟨rfl, h1⟩
          · rcases h2 with h2 | ⟨rfl, _⟩
            · exact absurd h1 (Nat.lt_asymm h2)
            · exact absurd h1 (Nat.lt_irrefl _)
          · rcases h2 with h2 | ⟨_, h2⟩
            · exact absurd h2 (Nat.lt_irrefl _)
            · exact List.cons_prefix_cons.2 ⟨rfl, ih l q h1 h2⟩
        · exact List.nil_prefix

theorem le_lcp_length (p q : Path) (k : Nat) :
    k ≤ (lcp p q).length ↔ k ≤ p.length ∧ k ≤ q.length ∧ p.take k = q.take k := by
  induction p generalizing q k with
  | nil =>
    refine ⟨fun h => ?_, And.left⟩
    cases Nat.le_zero.1 h
    exact ⟨Nat.le_refl _, Nat.zero_le _, rfl⟩
  | cons a p ih =>
    cases q with
    | nil =>
      refine ⟨fun h => ?_, fun h => h.2.1⟩
      cases Nat.le_zero.1 h
      exact ⟨Nat.zero_le _, Nat.le_refl _, rfl⟩
    | cons b q =>
      cases k with
      | zero => exact ⟨fun _ => ⟨Nat.zero_le _, Nat.zero_le _, rfl⟩, fun _ => Nat.zero_le _⟩
      | succ k =>
        rw [lcp]
        split
        · rename_i hab
          cases beq_iff_eq.1 hab
          simp only [List.length_cons, Nat.succ_le_succ_iff, List.take_succ_cons, List.cons.injEq, true_and, ih]
        · rename_i hab
          have hne : a ≠ b := fun e => hab (beq_iff_eq.2 e)
          exact ⟨fun h => absurd h (Nat.not_succ_le_zero k), fun h => absurd (List.cons.inj h.2.2).1 hne⟩

theorem mem_leaves_append (t sub : DTree) (r s : Path) (x : DTree) (h : t.get r = some sub) :
    (r ++ s, x) ∈ t.leaves ↔ (s, x) ∈ sub.leaves := by
  simp only [DTree.leaves, List.mem_filter, DTree.mem_paths_iff, DTree.get_append_of_get h]

/-- the left side is the leaf test of `consecutive`, which looks only below the longest common prefix -/
theorem any_between_iff (t sub : DTree) (p q : Path) (hsub : t.get (lcp p q) = some sub) :
    (sub.leaves.any fun pl => lcp p q ++ pl.1 != p && lcp p q ++ pl.1 != q &&
        isBefore p (lcp p q ++ pl.1) && isBefore (lcp p q ++ pl.1) q) = true ↔
      ∃ l ∈ t.leaves, l.1 ≠ p ∧ l.1 ≠ q ∧ DocBefore p l.1 ∧ DocBefore l.1 q := by
  simp only [List.any_eq_true, Bool.and_eq_true, bne_iff_ne, isBefore_iff, and_assoc]
  constructor
  · rintro ⟨pl, hpl, h⟩
    exact ⟨(lcp p q ++ pl.1, pl.2), (mem_leaves_append t sub _ _ _ hsub).2 hpl, h⟩
  · rintro ⟨⟨l, x⟩, hl, h1, h2, h3, h4⟩
    obtain ⟨s, rfl⟩ := lcp_prefix_between p l q h3 h4
    exact ⟨(s, x), (mem_leaves_append t sub _ s x hsub).1 hl, h1, h2, h3, h4⟩

theorem consecutive_of_get (t : DTree) (p q : Path) (u : DTree) (hu : t.get p = some u) :
    consecutive t p q = .val true ↔
      DocBefore p q ∧ ¬ ∃ l ∈ t.leaves, l.1 ≠ p ∧ l.1 ≠ q ∧ DocBefore p l.1 ∧ DocBefore l.1 q := by
  cases hb : isBefore p q with
  | false =>
    rw [consecutive, hb, Bool.not_false, Bool.or_true, if_pos rfl]
    exact ⟨nofun, fun h => absurd ((isBefore_iff p q).2 h.1) (hb ▸ Bool.false_ne_true)⟩
  | true =>
    have hd := (isBefore_iff p q).1 hb
    have hpq : (p == q) = false :=
      beq_eq_false_iff_ne.2 fun e => (docBefore_not_prefix hd).1 (e ▸ List.prefix_refl p)
    -- the node at the longest common prefix exists because the node at `p` does
    obtain ⟨s, hs⟩ := (lcp_prefix p q).1
    rw [← hs, DTree.get_append] at hu
    obtain ⟨sub, hsub, _⟩ := Option.bind_eq_some_iff.1 hu
    rw [← any_between_iff t sub p q hsub, consecutive, hb, hpq]
    simp only [Bool.not_true, Bool.or_self, Bool.false_eq_true, if_false, hsub, PRes.val.injEq,
      Bool.not_eq_true', Bool.not_eq_true]
    exact (and_iff_right hd).symm

theorem commonNtPrefixes_go_eq_filter (t : DTree) (nt : String) (p : Path) (idx : Nat) (p₁ q₁ : Path) :
    commonNtPrefixes.go t nt p idx p₁ q₁ =
      (List.range' (idx + 1) (lcp p₁ q₁).length).filter fun k => labelAt t (p.take k) == some nt := by
  induction p₁ generalizing idx q₁ with
  | nil => rfl
  | cons a p' ih =>
    cases q₁ with
    | nil => rfl
    | cons b q' =>
      rw [commonNtPrefixes.go, lcp]
      by_cases hab : a = b
      · subst hab
        rw [if_neg (fun h => bne_iff_ne.1 h rfl), if_pos (beq_iff_eq.2 rfl)]
        simp only [List.length_cons, List.range'_succ, List.filter_cons, ih]
      · rw [if_pos (bne_iff_ne.2 hab), if_neg (mt beq_iff_eq.1 hab)]
        rfl

theorem mem_commonNtPrefixes_iff (t : DTree) (nt : String) (p q : Path) (k : Nat) :
    k ∈ commonNtPrefixes t nt p q ↔
      k = 0 ∨ (k ≤ p.length ∧ k ≤ q.length ∧ p.take k = q.take k ∧ labelAt t (p.take k) = some nt) := by
  rw [commonNtPrefixes, List.mem_cons, commonNtPrefixes_go_eq_filter, List.mem_filter, List.mem_range'_1,
    beq_iff_eq, Nat.zero_add, Nat.lt_one_add_iff, le_lcp_length]
  -- the loop collects lengths from 1 on; a common prefix of length 0 is the first disjunct anyway
  constructor
  · rintro (h | ⟨⟨_, h2, h3, h4⟩, h5⟩)
    · exact Or.inl h
    · exact Or.inr ⟨h2, h3, h4, h5⟩
  · rintro (h | ⟨h2, h3, h4, h5⟩)
    · exact Or.inl h
    · exact (Nat.eq_zero_or_pos k).imp_right fun h0 => ⟨⟨h0, h2, h3, h4⟩, h5⟩

theorem mem_occs_iff (t : DTree) (nt : String) (k : Nat) (path : Path) (i : Nat) :
    i ∈ occs t nt k path ↔ OccsSpec t nt k path i := by
  simp only [occs, OccsSpec, List.mem_filter, List.mem_range, decide_eq_true_eq, beq_iff_eq]
  constructor
  · rintro ⟨⟨h1, h2⟩, h3⟩; exact ⟨h2, h1, h3⟩
  · rintro ⟨h1, h2, h3⟩; exact ⟨⟨h2, h1⟩, h3⟩

theorem occs_isEmpty_iff (t : DTree) (nt : String) (k : Nat) (path : Path) :
    (occs t nt k path).isEmpty = true ↔ ¬ ∃ i, OccsSpec t nt k path i := by
  rw [List.isEmpty_iff, List.eq_nil_iff_forall_not_mem]
  simp only [mem_occs_iff, not_exists]

theorem levelCond_iff (t : DTree) (op : LevelOp) (nt : String) (k : Nat) (p q : Path) :
    levelCond op (occs t nt k p) (occs t nt k q) = true ↔
      LevelCondSpec op (¬ ∃ i, OccsSpec t nt k p i) (¬ ∃ i, OccsSpec t nt k q i) := by
  cases op <;>
    simp only [levelCond, LevelCondSpec, Bool.and_eq_true, Bool.not_eq_true', occs_isEmpty_iff,
      ← Bool.not_eq_true]

end IslaVerif.C04
