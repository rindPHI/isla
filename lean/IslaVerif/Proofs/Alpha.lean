import IslaVerif.Model.Alpha
/-
A named formula means what its nameless form means, under an arbitrary interpretation (`toDB_sat_aux`). The
invariant of the induction is the agreement `hρ`: the named environment reads every variable where `resolve st`
finds it, in the value stack `σ` or in the free environment. The statements also ask for
`st.length = σ.length`; it is threaded along and no arm uses it.
-/
namespace IslaVerif.Alpha

structure Interp (V : Type) where
  atom : Nat → List V → Prop              -- an atom's meaning from the values of its variables
  dom : Nat → V → List (List V)           -- tree quantifier with n binders over the value of `in`: the binder-value tuples
  num : Nat → V                           -- the value denoting a natural number

def upd {V : Type} (ρ : String → V) (x : String) (v : V) : String → V := fun y => if y = x then v else ρ y

/-- bind the binders to the values, in order (a later binder of the same name wins) -/
def bindAll {V : Type} (ρ : String → V) : List String → List V → String → V
  | b :: bs, v :: vs => bindAll (upd ρ b v) bs vs
  | _, _ => ρ

mutual
/-- `dom` may return tuples of the wrong arity, so both tree quantifiers are guarded by
`vals.length = bs.length`: `∀` ignores such tuples and `∃` cannot use them -/
def SatN {V : Type} (I : Interp V) : (String → V) → NF → Prop
  | ρ, .atom t vs => I.atom t (vs.map ρ)
  | ρ, .neg f => ¬ SatN I ρ f
  | ρ, .conj fs => SatNAll I ρ fs
  | ρ, .disj fs => SatNAny I ρ fs
  | ρ, .all bs iv f => ∀ vals ∈ I.dom bs.length (ρ iv), vals.length = bs.length → SatN I (bindAll ρ bs vals) f
  | ρ, .ex bs iv f => ∃ vals ∈ I.dom bs.length (ρ iv), vals.length = bs.length ∧ SatN I (bindAll ρ bs vals) f
  | ρ, .allInt v f => ∀ n : Nat, SatN I (upd ρ v (I.num n)) f
  | ρ, .exInt v f => ∃ n : Nat, SatN I (upd ρ v (I.num n)) f
def SatNAll {V : Type} (I : Interp V) : (String → V) → List NF → Prop
  | _, [] => True
  | ρ, f :: fs => SatN I ρ f ∧ SatNAll I ρ fs
def SatNAny {V : Type} (I : Interp V) : (String → V) → List NF → Prop
  | _, [] => False
  | ρ, f :: fs => SatN I ρ f ∨ SatNAny I ρ fs
end

/-- value of a nameless occurrence: bound = position in the value stack (innermost first), free = by name -/
def valOf {V : Type} [Inhabited V] (ρ : String → V) (σ : List V) : Ref → V
  | .bound i => σ[i]?.getD default
  | .free n => ρ n

mutual
/-- the same guard as in `SatN`, with the number of binders for `bs.length` -/
def SatD {V : Type} [Inhabited V] (I : Interp V) (ρ : String → V) : List V → DB → Prop
  | σ, .atom t rs => I.atom t (rs.map (valOf ρ σ))
  | σ, .neg f => ¬ SatD I ρ σ f
  | σ, .conj fs => SatDAll I ρ σ fs
  | σ, .disj fs => SatDAny I ρ σ fs
  | σ, .all n iv f => ∀ vals ∈ I.dom n (valOf ρ σ iv), vals.length = n → SatD I ρ (vals.reverse ++ σ) f
  | σ, .ex n iv f => ∃ vals ∈ I.dom n (valOf ρ σ iv), vals.length = n ∧ SatD I ρ (vals.reverse ++ σ) f
  | σ, .allInt f => ∀ n : Nat, SatD I ρ (I.num n :: σ) f
  | σ, .exInt f => ∃ n : Nat, SatD I ρ (I.num n :: σ) f
def SatDAll {V : Type} [Inhabited V] (I : Interp V) (ρ : String → V) : List V → List DB → Prop
  | _, [] => True
  | σ, f :: fs => SatD I ρ σ f ∧ SatDAll I ρ σ fs
def SatDAny {V : Type} [Inhabited V] (I : Interp V) (ρ : String → V) : List V → List DB → Prop
  | _, [] => False
  | σ, f :: fs => SatD I ρ σ f ∨ SatDAny I ρ σ fs
end

theorem Ref.eq_of_beq : ∀ a b : Ref, (a == b) = true → a = b := by
  intro a b h
  cases a <;> cases b <;> try contradiction
  · exact congrArg Ref.bound (LawfulBEq.eq_of_beq h)
  · exact congrArg Ref.free (LawfulBEq.eq_of_beq h)

theorem Ref.beq_self : ∀ a : Ref, (a == a) = true
  | .bound i => beq_self_eq_true i
  | .free n => beq_self_eq_true n

instance : LawfulBEq Ref where
  eq_of_beq := Ref.eq_of_beq _ _
  rfl := Ref.beq_self _

mutual
theorem eqb_eq_aux : ∀ (a b : DB), DB.eqb a b = true → a = b
  | .atom t vs => fun b h => by
    cases b <;> try contradiction
    obtain ⟨h1, h2⟩ := Bool.and_eq_true_iff.1 h
    rw [eq_of_beq h1, eq_of_beq h2]
  | .neg f | .allInt f | .exInt f => fun b h => by
    cases b <;> try contradiction
    rw [eqb_eq_aux f _ h]
  | .conj fs | .disj fs => fun b h => by
    cases b <;> try contradiction
    rw [eqbL_eq_aux fs _ h]
  | .all n iv f | .ex n iv f => fun b h => by
    cases b <;> try contradiction
    obtain ⟨h12, h3⟩ := Bool.and_eq_true_iff.1 h
    obtain ⟨h1, h2⟩ := Bool.and_eq_true_iff.1 h12
    rw [eq_of_beq h1, eq_of_beq h2, eqb_eq_aux f _ h3]
theorem eqbL_eq_aux : ∀ (as bs : List DB), DB.eqbL as bs = true → as = bs
  | [], [] => fun _ => rfl
  | [], _ :: _ => fun h => nomatch h
  | _ :: _, [] => fun h => nomatch h
  | f :: fs, g :: gs => fun h => by
    obtain ⟨h1, h2⟩ := Bool.and_eq_true_iff.1 h
    rw [eqb_eq_aux f g h1, eqbL_eq_aux fs gs h2]
end

mutual
theorem eqb_refl_aux : ∀ (a : DB), DB.eqb a a = true
  | .atom t vs => Bool.and_eq_true_iff.2 ⟨beq_self_eq_true t, beq_self_eq_true vs⟩
  | .neg f | .allInt f | .exInt f => eqb_refl_aux f
  | .conj fs | .disj fs => eqbL_refl_aux fs
  | .all n iv f | .ex n iv f => Bool.and_eq_true_iff.2
    ⟨Bool.and_eq_true_iff.2 ⟨beq_self_eq_true n, beq_self_eq_true iv⟩, eqb_refl_aux f⟩
theorem eqbL_refl_aux : ∀ (as : List DB), DB.eqbL as as = true
  | [] => rfl
  | f :: fs => Bool.and_eq_true_iff.2 ⟨eqb_refl_aux f, eqbL_refl_aux fs⟩
end

theorem alphaEq_iff (f g : NF) : alphaEq f g = true ↔ toDB [] f = toDB [] g :=
  ⟨eqb_eq_aux _ _, fun e => by rw [alphaEq, e]; exact eqb_refl_aux _⟩

theorem upd_agree {V : Type} [Inhabited V] (ρ0 ρ : String → V) (st : List String) (σ : List V)
    (b : String) (x : V) (hρ : ∀ v, ρ v = valOf ρ0 σ (resolve st v)) :
    ∀ v, upd ρ b x v = valOf ρ0 (x :: σ) (resolve (b :: st) v) := by
  intro v
  rw [upd, hρ v, resolve, resolve, List.idxOf?_cons]
  by_cases h : v = b
  · rw [if_pos h, if_pos (beq_iff_eq.2 h.symm)]
    rfl
  · rw [if_neg h, if_neg (mt beq_iff_eq.1 (Ne.symm h))]
    cases List.idxOf? v st <;> rfl

theorem bindAll_agree {V : Type} [Inhabited V] (ρ0 : String → V) (bs : List String) (vals : List V)
    (ρ : String → V) (st : List String) (σ : List V) (hl : vals.length = bs.length)
    (hρ : ∀ v, ρ v = valOf ρ0 σ (resolve st v)) :
    ∀ v, bindAll ρ bs vals v = valOf ρ0 (vals.reverse ++ σ) (resolve (bs.reverse ++ st) v) := by
  induction bs generalizing vals ρ st σ with
  | nil =>
    cases vals with
    | nil => exact hρ
    | cons => cases hl
  | cons b bs ih =>
    cases vals with
    | nil => cases hl
    | cons x vals =>
      rw [bindAll, List.reverse_cons, List.reverse_cons, List.append_assoc, List.append_assoc]
      exact ih vals (upd ρ b x) (b :: st) (x :: σ) (Nat.succ.inj hl) (upd_agree ρ0 ρ st σ b x hρ)

mutual
theorem toDB_sat_aux {V : Type} [Inhabited V] (I : Interp V) (ρ0 : String → V) :
    ∀ (f : NF) (st : List String) (σ : List V) (ρ : String → V),
      st.length = σ.length → (∀ v, ρ v = valOf ρ0 σ (resolve st v)) →
      (SatN I ρ f ↔ SatD I ρ0 σ (toDB st f))
  | .atom t vs => fun st σ ρ _ hρ => by
    show I.atom t (vs.map ρ) ↔ I.atom t ((vs.map (resolve st)).map (valOf ρ0 σ))
    rw [List.map_map]
    exact iff_of_eq (congrArg _ (List.map_congr_left fun v _ => hρ v))
  | .neg f => fun st σ ρ hl hρ => not_congr (toDB_sat_aux I ρ0 f st σ ρ hl hρ)
  | .conj fs => toDB_satAll_aux I ρ0 fs
  | .disj fs => toDB_satAny_aux I ρ0 fs
  | .all bs iv f => fun st σ ρ hl hρ => by
    unfold SatN toDB SatD
    rw [hρ iv]
    exact forall₂_congr fun vals _ => imp_congr_right fun hlen =>
      toDB_sat_aux I ρ0 f _ _ _ (by simp [hl, hlen]) (bindAll_agree ρ0 bs vals ρ st σ hlen hρ)
  | .ex bs iv f => fun st σ ρ hl hρ => by
    unfold SatN toDB SatD
    rw [hρ iv]
    exact exists_congr fun vals => and_congr_right fun _ => and_congr_right fun hlen =>
      toDB_sat_aux I ρ0 f _ _ _ (by simp [hl, hlen]) (bindAll_agree ρ0 bs vals ρ st σ hlen hρ)
  | .allInt v f => fun st σ ρ hl hρ => forall_congr' fun n =>
    toDB_sat_aux I ρ0 f _ _ _ (congrArg Nat.succ hl) (upd_agree ρ0 ρ st σ v (I.num n) hρ)
  | .exInt v f => fun st σ ρ hl hρ => exists_congr fun n =>
    toDB_sat_aux I ρ0 f _ _ _ (congrArg Nat.succ hl) (upd_agree ρ0 ρ st σ v (I.num n) hρ)
theorem toDB_satAll_aux {V : Type} [Inhabited V] (I : Interp V) (ρ0 : String → V) :
    ∀ (fs : List NF) (st : List String) (σ : List V) (ρ : String → V),
      st.length = σ.length → (∀ v, ρ v = valOf ρ0 σ (resolve st v)) →
      (SatNAll I ρ fs ↔ SatDAll I ρ0 σ (toDBL st fs))
  | [] => fun _ _ _ _ _ => Iff.rfl
  | f :: fs => fun st σ ρ hl hρ =>
    and_congr (toDB_sat_aux I ρ0 f st σ ρ hl hρ) (toDB_satAll_aux I ρ0 fs st σ ρ hl hρ)
theorem toDB_satAny_aux {V : Type} [Inhabited V] (I : Interp V) (ρ0 : String → V) :
    ∀ (fs : List NF) (st : List String) (σ : List V) (ρ : String → V),
      st.length = σ.length → (∀ v, ρ v = valOf ρ0 σ (resolve st v)) →
      (SatNAny I ρ fs ↔ SatDAny I ρ0 σ (toDBL st fs))
  | [] => fun _ _ _ _ _ => Iff.rfl
  | f :: fs => fun st σ ρ hl hρ =>
    or_congr (toDB_sat_aux I ρ0 f st σ ρ hl hρ) (toDB_satAny_aux I ρ0 fs st σ ρ hl hρ)
end

end IslaVerif.Alpha
