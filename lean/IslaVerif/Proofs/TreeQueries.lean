import IslaVerif.Proofs.Tree
/-
The read-only operations of `DerivationTree` on a plain tree are read off `paths`, its pre-order list of
(path, subtree): the string from the leaves in that order, the trie view from the entries whose path extends
`r`, node search from the identities of the entries.
-/
namespace IslaVerif.C16
open IslaVerif.DTree

/-- what a leaf contributes to `str(tree)`: open leaves print their symbol; closed leaves print
their value unless it is a nonterminal (epsilon expansion) -/
def leafStr (isNT : String → Bool) : DTree → String
  | .openLeaf _ s => s
  | .node _ s _ => if isNT s then "" else s

def joinStrs : List String → String
  | [] => ""
  | s :: ss => s ++ joinStrs ss

/-- no two nodes carry the same identity: what `find_node` assumes ("by its (assumed unique) ID");
`DerivationTree` draws identities from a class-wide counter -/
def uniqueIds (t : DTree) : Prop := (t.paths.map (fun pu => pu.2.id)).Nodup

theorem joinStrs_append (a b : List String) : joinStrs (a ++ b) = joinStrs a ++ joinStrs b := by
  induction a with
  | nil => simp [joinStrs]
  | cons s a ih => simp [joinStrs, ih, String.append_assoc]

mutual
theorem yieldOpen_eq (isNT : String → Bool) : ∀ t : DTree,
    t.yieldOpen isNT = joinStrs ((t.paths.filter (fun pu => pu.2.isLeaf)).map (fun pu => leafStr isNT pu.2))
  | .openLeaf i s => String.append_empty.symm
  | .node i s ks => by
    have ih := yield_auxL isNT ks 0
    cases ks with
    | nil => exact String.append_empty.symm
    | cons k ks =>
      -- an inner node is no leaf, so the filter drops its own entry of `paths`; the rest unfolds to `ih`
      exact ih
theorem yield_auxL (isNT : String → Bool) : ∀ (ks : List DTree) (i : Nat),
    yieldOpenL isNT ks = joinStrs (((pathsL ks i).filter (fun pu => pu.2.isLeaf)).map (fun pu => leafStr isNT pu.2))
  | [] => fun _ => rfl
  | k :: ks => fun i => by
    rw [yieldOpenL, pathsL, List.filter_append, List.map_append, joinStrs_append,
      ← yield_auxL isNT ks (i+1), yieldOpen_eq isNT k, List.filter_map, List.map_map]
    rfl
end

theorem nodup_map_inj {α β : Type} (f : α → β) (l : List α) (hn : (l.map f).Nodup) (a b : α)
    (ha : a ∈ l) (hb : b ∈ l) : f a = f b → a = b :=
  -- the implication holds on the diagonal, and off it in both orders because the images differ
  have hp : l.Pairwise fun a b => f a ≠ f b := List.pairwise_map.1 hn
  List.Pairwise.forall_of_forall_of_flip (R := fun a b => f a = f b → a = b) (fun _ _ _ => rfl)
    (hp.imp fun hne h => absurd h hne) (hp.imp fun hne h => absurd h.symm hne) ha hb

theorem filter_pathsL_prefix (r' : Path) (ks : List DTree) (i j : Nat) :
    (pathsL ks i).filter (fun pu => pu.1.take (r'.length + 1) == (i + j) :: r') =
      match ks[j]? with
      | none => []
      | some k => (k.paths.filter (fun pu => pu.1.take r'.length == r')).map
          (fun pu => ((i + j) :: pu.1, pu.2)) := by
  induction ks generalizing i j with
  | nil => rfl
  | cons k ks ih =>
    rw [pathsL, List.filter_append]
    cases j with
    | zero =>
      -- the entries of the other children begin with an index above `i`
      rw [(List.filter_eq_nil_iff (l := pathsL ks (i + 1))).2, List.append_nil, List.filter_map]
      · simp only [Function.comp_def, List.take_succ_cons, List.cons_beq_cons, Nat.add_zero, beq_self_eq_true,
          Bool.true_and]
        rfl
      · intro pu hm
        obtain ⟨j, _, q, _, _, hp⟩ := (mem_pathsL_iff ks (i + 1) pu.1 pu.2).1 hm
        have hne : i + 1 + j ≠ i + 0 := Nat.ne_of_gt (Nat.lt_add_right j (Nat.lt_succ_self i))
        rw [hp, List.take_succ_cons, List.cons_beq_cons, beq_eq_false_iff_ne.2 hne]
        exact Bool.false_ne_true
    | succ j =>
      -- the entries of the first child begin with `i`
      rw [(List.filter_eq_nil_iff (l := (paths k).map _)).2, List.nil_append, ← Nat.add_assoc, Nat.add_right_comm]
      · exact ih (i + 1) j
      · intro pu hm
        obtain ⟨pu', _, rfl⟩ := List.mem_map.1 hm
        have hne : i ≠ i + (j + 1) := Nat.ne_of_lt (Nat.lt_add_of_pos_right (Nat.succ_pos j))
        rw [List.take_succ_cons, List.cons_beq_cons, beq_eq_false_iff_ne.2 hne]
        exact Bool.false_ne_true

theorem filter_paths_prefix (t sub : DTree) (r : Path) (h : t.get r = some sub) :
    t.paths.filter (fun pu => pu.1.take r.length == r) = sub.paths.map (fun pu => (r ++ pu.1, pu.2)) := by
  induction r generalizing t with
  | nil =>
    cases h
    -- the test is `[] == []` and the map puts `[] ++ ·` in front: both do nothing
    exact (List.filter_eq_self.2 fun _ _ => rfl).trans (List.map_id' _).symm
  | cons j r ih =>
    obtain ⟨i, s, ks, hj, rfl, hu⟩ := get_cons_eq_some.1 h
    have := filter_pathsL_prefix r ks 0 j
    rw [Nat.zero_add, List.getElem?_eq_getElem hj] at this
    dsimp only at this
    rw [paths, List.filter_cons_of_neg (by simp), List.length_cons, this, ih _ hu, List.map_map]
    rfl

end IslaVerif.C16
