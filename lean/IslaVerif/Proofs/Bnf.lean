import IslaVerif.Model.Bnf
/-
Strings are lists of code points: 34 is `"`, 92 `\`, 120 `x`, and 98, 116, 110, 114 are `b`, `t`, `n`, `r`, the
second characters of an `ESC` besides `"` and `\`. The escape table is generated, so it enters through one
evaluated fact, `table_good`; hence an escaped character has one of three shapes (`escapeChar_cases`), and for
each shape un-escaping and lexing consume exactly that character.
-/
namespace IslaVerif.C11
open IslaVerif.Bnf IslaVerif.Generated.Escapes

/-- the test of the `92 :: n :: rest` arm of `lexBodyF` (Model/Bnf.lean): `n` is the second character of an
`ESC : '\\' [btnr"\\]` of `bnf.g4` -/
def isEscSnd (n : Nat) : Bool := n == 98 || n == 116 || n == 110 || n == 114 || n == 34 || n == 92

/-- what the last arm of `lexBodyF` takes as a character of the body -/
def plain (n : Nat) : Bool := n != 34 && n != 92

/-- the `isEscSnd` and `plain` conjuncts are what the lexer needs of the entry -/
def goodEntry (e : Nat × List Nat) : Bool :=
  match e.2 with
  | [92, n] => lookupSimple n simpleEscapes == some e.1 && isEscSnd n
  | [92, 120, h1, h2] =>
    isHex h1 && isHex h2 && hexVal h1 * 16 + hexVal h2 == e.1 && plain h1 && plain h2
  | _ => false

theorem table_good : escapeTable.all goodEntry = true := by decide +kernel
theorem x_not_simple : lookupSimple 120 simpleEscapes = none := by decide
theorem table_backslash : (lookupEsc 92 escapeTable).isSome = true := by decide +kernel
theorem table_quote : (lookupEsc 34 escapeTable).isSome = true := by decide +kernel

theorem lookupEsc_mem {c : Nat} {v : List Nat} {t : List (Nat × List Nat)} (h : lookupEsc c t = some v) :
    (c, v) ∈ t := by
  induction t with
  | nil => cases h
  | cons kw t ih =>
    obtain ⟨k, w⟩ := kw
    rw [lookupEsc] at h
    split at h
    · next hk =>
      cases h
      rw [eq_of_beq hk]
      exact List.mem_cons_self
    · exact List.mem_cons_of_mem _ (ih h)

theorem escapeChar_cases (c : Nat) :
    (escapeChar c = [c] ∧ c ≠ 92 ∧ c ≠ 34) ∨
    (∃ n, escapeChar c = [92, n] ∧ lookupSimple n simpleEscapes = some c ∧ isEscSnd n = true) ∨
    (∃ h1 h2, escapeChar c = [92, 120, h1, h2] ∧ isHex h1 = true ∧ isHex h2 = true ∧
      hexVal h1 * 16 + hexVal h2 = c ∧ plain h1 = true ∧ plain h2 = true) := by
  unfold escapeChar
  cases h : lookupEsc c escapeTable with
  | none =>
    refine .inl ⟨rfl, ?_, ?_⟩ <;> rintro rfl
    · exact nomatch h ▸ table_backslash
    · exact nomatch h ▸ table_quote
  | some v =>
    right
    have hg : goodEntry (c, v) = true := List.all_eq_true.mp table_good _ (lookupEsc_mem h)
    unfold goodEntry at hg
    split at hg
    · next n hv =>
      obtain rfl : v = [92, n] := hv
      obtain ⟨hn, he⟩ := Bool.and_eq_true_iff.1 hg
      exact .inl ⟨n, rfl, eq_of_beq hn, he⟩
    · next h1 h2 hv =>
      obtain rfl : v = [92, 120, h1, h2] := hv
      simp only [Bool.and_eq_true, beq_iff_eq] at hg
      obtain ⟨⟨⟨⟨i1, i2⟩, hx⟩, p1⟩, p2⟩ := hg
      exact .inr ⟨h1, h2, rfl, i1, i2, hx, p1, p2⟩
    · cases hg

theorem unescapeF_lit {c : Nat} (hc : c ≠ 92) (f : Nat) (r : List Nat) :
    unescapeF (f + 1) (c :: r) = c :: unescapeF f r := by
  rw [unescapeF]
  -- the arms of `unescapeF` overlap (`92 :: n :: rest` comes before `c :: rest`), so the equation of the last arm
  -- asks that the argument has none of the earlier shapes; the same happens with `lexBodyF` below
  exact fun _ _ h _ => hc h

theorem unescapeF_simple {n v : Nat} (h : lookupSimple n simpleEscapes = some v) (f : Nat) (r : List Nat) :
    unescapeF (f + 1) (92 :: n :: r) = v :: unescapeF f r := by
  rw [unescapeF.eq_def]
  simp [h]

theorem unescapeF_hex {h1 h2 : Nat} (i1 : isHex h1 = true) (i2 : isHex h2 = true) (f : Nat) (r : List Nat) :
    unescapeF (f + 1) (92 :: 120 :: h1 :: h2 :: r) = (hexVal h1 * 16 + hexVal h2) :: unescapeF f r := by
  rw [unescapeF.eq_def]
  simp [x_not_simple, i1, i2]

theorem unescapeF_escapeChar (c f : Nat) (r : List Nat) :
    unescapeF (f + 1) (escapeChar c ++ r) = c :: unescapeF f r := by
  rcases escapeChar_cases c with ⟨he, h92, _⟩ | ⟨n, he, hn, _⟩ | ⟨h1, h2, he, i1, i2, hv, _⟩ <;> rw [he]
  · exact unescapeF_lit h92 f r
  · exact unescapeF_simple hn f r
  · rw [← hv]; exact unescapeF_hex i1 i2 f r

theorem unescapeF_escapeStr (s : List Nat) (f : Nat) (hf : s.length ≤ f) : unescapeF f (escapeStr s) = s := by
  induction s generalizing f with
  | nil => cases f <;> rfl
  | cons c cs ih =>
    cases f with
    | zero => cases hf
    | succ f => rw [escapeStr, unescapeF_escapeChar, ih f (Nat.le_of_succ_le_succ hf)]

theorem length_le_escapeStr (s : List Nat) : s.length ≤ (escapeStr s).length := by
  induction s with
  | nil => exact Nat.le_refl _
  | cons c cs ih =>
    have : 1 ≤ (escapeChar c).length := by
      rcases escapeChar_cases c with ⟨he, _⟩ | ⟨n, he, _⟩ | ⟨h1, h2, he, _⟩ <;> rw [he]
      all_goals exact Nat.le_add_left 1 _
    rw [escapeStr, List.length_append, List.length_cons]
    omega

theorem lexBodyF_quote (f : Nat) (r : List Nat) : lexBodyF (f + 1) (34 :: r) = some ([], r) := rfl

theorem lexBodyF_plain {c : Nat} (hc : plain c = true) (f : Nat) (r : List Nat) :
    lexBodyF (f + 1) (c :: r) = (lexBodyF f r).map fun (b, r') => (c :: b, r') := by
  simp only [plain, Bool.and_eq_true, bne_iff_ne] at hc
  rw [lexBodyF]
  · exact hc.1
  · exact fun _ _ h _ => hc.2 h

theorem lexBodyF_esc {n : Nat} (hn : isEscSnd n = true) (f : Nat) (r : List Nat) :
    lexBodyF (f + 1) (92 :: n :: r) = (lexBodyF f r).map fun (b, r') => (92 :: n :: b, r') :=
  if_pos hn

theorem lexBodyF_x (f : Nat) (r : List Nat) :
    lexBodyF (f + 1) (92 :: 120 :: r) = (lexBodyF f (120 :: r)).map fun (b, r') => (92 :: b, r') :=
  if_neg (by decide)

/-- an `ESC` pair takes one step for two characters, so the fuel left over is only bounded from below -/
theorem lexBodyF_escapeChar (c f : Nat) (r : List Nat) :
    ∃ f', f ≤ f' ∧ lexBodyF (f + (escapeChar c).length) (escapeChar c ++ r) =
      (lexBodyF f' r).map fun (b, r') => (escapeChar c ++ b, r') := by
  rcases escapeChar_cases c with ⟨he, h92, h34⟩ | ⟨n, he, _, hn⟩ | ⟨h1, h2, he, _, _, _, p1, p2⟩ <;> rw [he]
  · exact ⟨f, Nat.le_refl f, lexBodyF_plain (by simp [plain, h92, h34]) f r⟩
  · exact ⟨f + 1, Nat.le_succ f, lexBodyF_esc hn (f + 1) r⟩
  · refine ⟨f, Nat.le_refl f, ?_⟩
    show lexBodyF (f + 4) (92 :: 120 :: h1 :: h2 :: r) = _
    rw [lexBodyF_x, lexBodyF_plain (c := 120) (by decide), lexBodyF_plain p1, lexBodyF_plain p2]
    cases lexBodyF f r <;> rfl

theorem lexBodyF_escapeStr (rest s : List Nat) (f : Nat) (hf : (escapeStr s).length + 1 ≤ f) :
    lexBodyF f (escapeStr s ++ 34 :: rest) = some (escapeStr s, rest) := by
  induction s generalizing f with
  | nil =>
    cases f with
    | zero => cases hf
    | succ f => exact lexBodyF_quote f rest
  | cons c cs ih =>
    rw [escapeStr, List.length_append] at hf
    obtain ⟨f0, rfl⟩ : ∃ f0, f = f0 + (escapeChar c).length := Nat.exists_eq_add_of_le' (by omega)
    obtain ⟨f', hf', h⟩ := lexBodyF_escapeChar c f0 (escapeStr cs ++ 34 :: rest)
    rw [escapeStr, List.append_assoc, h, ih f' (by omega)]
    rfl

end IslaVerif.C11
