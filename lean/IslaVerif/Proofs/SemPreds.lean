import IslaVerif.Model.SemPreds
/-
Numerals are digit lists, most significant digit first. `int(s, b)` is a left fold (Horner form), `posVal` the
positional sum the statements of C20 compare; `foldl_eq_posVal`, stated for any start value, connects the two.
Digit generation pushes digits in front of an accumulator, so it is inverted by the fold that starts at the
number still to be written (`valDigits_toDigitsAux`).
-/
namespace IslaVerif.C20
open IslaVerif.SemPreds

/-- positional value of a digit list (most significant first): Σ dᵢ · b^(n-1-i) -/
def posVal (b : Nat) : List Nat → Nat
  | [] => 0
  | d :: ds => d * b ^ ds.length + posVal b ds

theorem foldl_eq_posVal (b : Nat) (ds : List Nat) (a : Nat) :
    ds.foldl (fun acc d => acc * b + d) a = a * b ^ ds.length + posVal b ds := by
  induction ds generalizing a with
  | nil => simp [posVal]
  | cons d ds ih =>
    simp only [List.foldl_cons, ih, posVal, List.length_cons, Nat.pow_succ, Nat.add_mul]
    ac_rfl

theorem valDigits_eq_posVal (b : Nat) (ds : List Nat) : valDigits b ds = posVal b ds := by
  unfold valDigits
  rw [foldl_eq_posVal, Nat.zero_mul, Nat.zero_add]

theorem valDigits_snoc (b : Nat) (ds : List Nat) (d : Nat) :
    valDigits b (ds ++ [d]) = valDigits b ds * b + d := by
  simp [valDigits, List.foldl_append]

theorem octLoop_eq (l : List Nat) (idx : Nat) : octLoop l idx = 8 ^ idx * valDigits 8 l.reverse := by
  induction l generalizing idx with
  | nil => rfl
  | cons d rest ih =>
    rw [octLoop, ih, List.reverse_cons, valDigits_snoc, Nat.pow_succ, Nat.mul_add]
    ac_rfl

theorem valDigits_toDigitsAux (b : Nat) (hb : 2 ≤ b) (fuel n : Nat) (acc : List Nat) (h : n < fuel) :
    valDigits b (toDigitsAux b fuel n acc) = acc.foldl (fun a d => a * b + d) n := by
  unfold valDigits
  induction fuel generalizing n acc with
  | zero => omega
  | succ fuel ih =>
    unfold toDigitsAux
    split
    · rw [List.foldl_cons, Nat.zero_mul, Nat.zero_add]
    · have hlt : n / b < n := Nat.div_lt_self (by omega) hb
      rw [ih _ _ (by omega), List.foldl_cons, Nat.mul_comm, Nat.div_add_mod]

theorem toDigitsAux_lt (b : Nat) (hb : 2 ≤ b) (fuel n : Nat) (acc : List Nat)
    (hacc : ∀ d ∈ acc, d < b) : ∀ d ∈ toDigitsAux b fuel n acc, d < b := by
  induction fuel generalizing n acc with
  | zero => exact hacc
  | succ fuel ih =>
    unfold toDigitsAux
    split
    · exact List.forall_mem_cons.2 ⟨‹n < b›, hacc⟩
    · exact ih _ _ (List.forall_mem_cons.2 ⟨Nat.mod_lt _ (by omega), hacc⟩)

theorem toDigits_lt (b n : Nat) (hb : 2 ≤ b) : ∀ d ∈ toDigits b n, d < b :=
  toDigitsAux_lt b hb (n + 1) n [] (by simp)

theorem crop_never_false' (s : List Char) (w : Nat) : cropM s w ≠ .verdict false := by
  unfold cropM
  split <;> nofun

theorem justM_fit (lj cr : Bool) {s : List Char} {w : Nat} (c : Char) (h : s.length = w) :
    justM lj cr s w c = .verdict true := by
  unfold justM; rw [if_pos (beq_iff_eq.2 h)]

theorem padded_length (lj : Bool) {s : List Char} {w : Nat} (c : Char) (h : s.length < w) :
    (if lj then s ++ List.replicate (w - s.length) c
      else List.replicate (w - s.length) c ++ s).length = w := by
  cases lj
  · rw [if_neg Bool.false_ne_true, List.length_append, List.length_replicate]
    omega
  · rw [if_pos rfl, List.length_append, List.length_replicate]
    omega

theorem cropped_length (lj : Bool) {s : List Char} {w : Nat} (h : w < s.length) :
    (if lj then s.take w else s.drop (s.length - w)).length = w := by
  cases lj
  · rw [if_neg Bool.false_ne_true, List.length_drop]
    omega
  · rw [if_pos rfl, List.length_take]
    omega

/-- cropping the padded string changes nothing -/
theorem justM_short (lj cr : Bool) {s : List Char} {w : Nat} (c : Char) (h : s.length < w) :
    justM lj cr s w c = .replace
      (if lj then s ++ List.replicate (w - s.length) c else List.replicate (w - s.length) c ++ s) := by
  have hlen := padded_length lj c h
  unfold justM
  rw [if_neg (mt beq_iff_eq.1 (Nat.ne_of_lt h))]
  simp only [hlen, bne_self_eq_false, Bool.and_false, List.take_of_length_le (Nat.le_of_eq hlen),
    Nat.sub_self, List.drop_zero, ite_self]
  rfl

theorem justM_long (lj cr : Bool) {s : List Char} {w : Nat} (c : Char) (h : w < s.length) :
    justM lj cr s w c =
      if cr then .replace (if lj then s.take w else s.drop (s.length - w)) else .verdict false := by
  have h0 : w - s.length = 0 := by omega
  have hne : (s.length != w) = true := bne_iff_ne.2 (Nat.ne_of_gt h)
  unfold justM
  rw [if_neg (mt beq_iff_eq.1 (Nat.ne_of_gt h))]
  simp only [h0, List.replicate_zero, List.append_nil, List.nil_append, ite_self, hne]
  cases cr <;> rfl

end IslaVerif.C20
