import IslaVerif.Model.Sem
import IslaVerif.Proofs.Tree
/-
The specification `Sat` of ISLa constraints on a closed reference tree (islaspec.rst, section
"Semantics"), and the one induction that relates the reference evaluator to it: a definite answer of
`evalRef` is the truth value of `Sat`, in symbols `Decides (evalRef w β f) (Sat w β f)`.  `Decides`
is kept by Kleene's connectives and by a fold over a list that enumerates the instances of a
quantifier; what is left to each quantifier arm is that `domain` enumerates the declarative domain.
-/
namespace IslaVerif.Sem

/-- the environments a tree quantifier without match expression ranges over -/
def TreeInst (w : World) (β : Env) (v ty inVar : String) (β' : Env) : Prop :=
  ∃ p sub q t, β.get inVar = some (.path p) ∧ w.root.get p = some sub ∧ sub.get q = some t ∧
    t.sym = ty ∧ β' = (v, Bind.path (p ++ q)) :: β

/-- the environments a tree quantifier with match expression ranges over: one per subtree with the
right label and per match-expression tree that matches it (islaspec: `match(t, t', P) ≠ ⊥`) -/
def MatchInst (w : World) (β : Env) (v ty inVar : String) (ms : List MTree) (β' : Env) : Prop :=
  ∃ p sub q t m bs, β.get inVar = some (.path p) ∧ w.root.get p = some sub ∧ sub.get q = some t ∧
    t.sym = ty ∧ m ∈ ms ∧ matchM (p ++ q) t m.tree m.binds = some bs ∧
    β' = (v, Bind.path (p ++ q)) :: (bs.map fun (x, r) => (x, Bind.path r)) ++ β

mutual
/-- Satisfaction, transcribed from islaspec.rst.  It differs from `evalRef` where an executable
function must cut corners: tree quantifiers range over ALL (path, subtree) pairs of the `in` tree
with the right label, stated through `DTree.get` and not through the enumeration `paths`; numeric
quantifiers range over ALL natural numbers (`evalRef` searches `0 .. intBound-1` and answers only
when that search is conclusive); atoms are true when their separately verified evaluators say
`some true`. -/
def Sat (w : World) : Env → Fm → Prop
  | β, .smt t => evalSmt w β t = some true
  | β, .pred name args => evalPred w β name args = some true
  | β, .count tv needle num => evalCount w β tv needle num = some true
  | β, .neg f => ¬ Sat w β f
  | β, .conj fs => SatAll w β fs
  | β, .disj fs => SatAny w β fs
  | β, .all v ty inVar none f => ∀ β', TreeInst w β v ty inVar β' → Sat w β' f
  | β, .ex v ty inVar none f => ∃ β', TreeInst w β v ty inVar β' ∧ Sat w β' f
  | β, .all v ty inVar (some ms) f => ∀ β', MatchInst w β v ty inVar ms β' → Sat w β' f
  | β, .ex v ty inVar (some ms) f => ∃ β', MatchInst w β v ty inVar ms β' ∧ Sat w β' f
  | β, .allInt v f => ∀ n : Nat, Sat w ((v, Bind.num n) :: β) f
  | β, .exInt v f => ∃ n : Nat, Sat w ((v, Bind.num n) :: β) f
def SatAll (w : World) : Env → List Fm → Prop
  | _, [] => True
  | β, f :: fs => Sat w β f ∧ SatAll w β fs
def SatAny (w : World) : Env → List Fm → Prop
  | _, [] => False
  | β, f :: fs => Sat w β f ∨ SatAny w β fs
end

theorem tvNot_eq (a : TV) (b : Bool) : tvNot a = some b ↔ a = some (!b) := by
  rcases a with _ | _ | _ <;> cases b <;> decide

theorem tvAnd_eq_true (a b : TV) : tvAnd a b = some true ↔ a = some true ∧ b = some true := by
  rcases a with _ | _ | _ <;> rcases b with _ | _ | _ <;> decide

theorem tvAnd_eq_false (a b : TV) : tvAnd a b = some false ↔ a = some false ∨ b = some false := by
  rcases a with _ | _ | _ <;> rcases b with _ | _ | _ <;> decide

theorem tvOr_eq_false (a b : TV) : tvOr a b = some false ↔ a = some false ∧ b = some false := by
  rcases a with _ | _ | _ <;> rcases b with _ | _ | _ <;> decide

theorem tvOr_eq_true (a b : TV) : tvOr a b = some true ↔ a = some true ∨ b = some true := by
  rcases a with _ | _ | _ <;> rcases b with _ | _ | _ <;> decide

theorem foldAnd_eq_true {α : Type} (F : α → TV) (l : List α) :
    l.foldr (fun x acc => tvAnd (F x) acc) (some true) = some true ↔ ∀ x ∈ l, F x = some true := by
  induction l with
  | nil => simp
  | cons a l ih => rw [List.foldr_cons, tvAnd_eq_true, ih, List.forall_mem_cons]

theorem foldAnd_eq_false {α : Type} (F : α → TV) (l : List α) :
    l.foldr (fun x acc => tvAnd (F x) acc) (some true) = some false ↔ ∃ x ∈ l, F x = some false := by
  induction l with
  | nil => simp
  | cons a l ih => simp only [List.foldr_cons, tvAnd_eq_false, ih, List.mem_cons, exists_eq_or_imp]

theorem foldOr_eq_false {α : Type} (F : α → TV) (l : List α) :
    l.foldr (fun x acc => tvOr (F x) acc) (some false) = some false ↔ ∀ x ∈ l, F x = some false := by
  induction l with
  | nil => simp
  | cons a l ih => rw [List.foldr_cons, tvOr_eq_false, ih, List.forall_mem_cons]

theorem foldOr_eq_true {α : Type} (F : α → TV) (l : List α) :
    l.foldr (fun x acc => tvOr (F x) acc) (some false) = some true ↔ ∃ x ∈ l, F x = some true := by
  induction l with
  | nil => simp
  | cons a l ih => simp only [List.foldr_cons, tvOr_eq_true, ih, List.mem_cons, exists_eq_or_imp]

/-- a definite `a` is the truth value of `P` (what the evaluators promise about `Sat`) -/
def Decides (a : TV) (P : Prop) : Prop := ∀ b, a = some b → (b = true ↔ P)

theorem Decides.intro {a : TV} {P : Prop} (ht : a = some true → P) (hf : a = some false → ¬ P) :
    Decides a P
  | true, h => ⟨fun _ => ht h, fun _ => rfl⟩
  | false, h => ⟨nofun, fun hP => absurd hP (hf h)⟩

theorem Decides.none {P : Prop} : Decides none P := nofun

theorem Decides.self (a : TV) : Decides a (a = some true) :=
  fun b h => by rw [h, Option.some.injEq]

theorem Decides.of_true {a : TV} {P : Prop} (h : Decides a P) (ha : a = some true) : P := (h true ha).1 rfl

theorem Decides.of_false {a : TV} {P : Prop} (h : Decides a P) (ha : a = some false) : ¬ P :=
  fun hP => Bool.false_ne_true ((h false ha).2 hP)

theorem Decides.not {a : TV} {P : Prop} (h : Decides a P) : Decides (tvNot a) (¬ P) :=
  .intro (fun ha => h.of_false ((tvNot_eq a true).1 ha)) (fun ha hn => hn (h.of_true ((tvNot_eq a false).1 ha)))

theorem Decides.and {a b : TV} {P Q : Prop} (ha : Decides a P) (hb : Decides b Q) :
    Decides (tvAnd a b) (P ∧ Q) :=
  .intro (fun h => ⟨ha.of_true ((tvAnd_eq_true a b).1 h).1, hb.of_true ((tvAnd_eq_true a b).1 h).2⟩)
    (fun h hPQ => ((tvAnd_eq_false a b).1 h).elim (ha.of_false · hPQ.1) (hb.of_false · hPQ.2))

theorem Decides.or {a b : TV} {P Q : Prop} (ha : Decides a P) (hb : Decides b Q) :
    Decides (tvOr a b) (P ∨ Q) :=
  .intro (fun h => ((tvOr_eq_true a b).1 h).imp ha.of_true hb.of_true)
    (fun h hPQ => hPQ.elim (ha.of_false ((tvOr_eq_false a b).1 h).1) (hb.of_false ((tvOr_eq_false a b).1 h).2))

theorem Decides.foldAnd {α : Type} {F : α → TV} {S P : α → Prop} {l : List α}
    (hl : ∀ x, x ∈ l ↔ P x) (ih : ∀ x, Decides (F x) (S x)) :
    Decides (l.foldr (fun x acc => tvAnd (F x) acc) (some true)) (∀ x, P x → S x) :=
  .intro (fun h x hx => (ih x).of_true ((foldAnd_eq_true F l).1 h x ((hl x).2 hx)))
    (fun h hall => let ⟨x, hx, hF⟩ := (foldAnd_eq_false F l).1 h; (ih x).of_false hF (hall x ((hl x).1 hx)))

theorem Decides.foldOr {α : Type} {F : α → TV} {S P : α → Prop} {l : List α}
    (hl : ∀ x, x ∈ l ↔ P x) (ih : ∀ x, Decides (F x) (S x)) :
    Decides (l.foldr (fun x acc => tvOr (F x) acc) (some false)) (∃ x, P x ∧ S x) :=
  .intro (fun h => let ⟨x, hx, hF⟩ := (foldOr_eq_true F l).1 h; ⟨x, (hl x).1 hx, (ih x).of_true hF⟩)
    (fun h ⟨x, hP, hS⟩ => (ih x).of_false ((foldOr_eq_false F l).1 h x ((hl x).2 hP)) hS)

theorem domain_of_get {w : World} {β : Env} {inVar : String} {p : Path} (ty : String)
    (hb : β.get inVar = some (.path p)) :
    domain w β ty inVar =
      (w.root.get p).map fun sub => (sub.paths.filter fun qu => qu.2.sym == ty).map fun qu => p ++ qu.1 := by
  unfold domain
  rw [hb]

theorem domain_eq_some_iff {w : World} {β : Env} {ty inVar : String} {ps : List Path} :
    domain w β ty inVar = some ps ↔ ∃ p sub, β.get inVar = some (.path p) ∧ w.root.get p = some sub ∧
      ps = (sub.paths.filter fun qu => qu.2.sym == ty).map fun qu => p ++ qu.1 := by
  constructor
  · intro h
    unfold domain at h
    split at h
    · rename_i p hb
      obtain ⟨sub, hs, rfl⟩ := Option.map_eq_some_iff.1 h
      exact ⟨p, sub, hb, hs, rfl⟩
    · cases h
  · rintro ⟨p, sub, hb, hs, rfl⟩
    rw [domain_of_get ty hb, hs]
    rfl

theorem mem_domain {w : World} {β : Env} {ty inVar : String} {ps : List Path} {p : Path} {sub : DTree}
    (hb : β.get inVar = some (.path p)) (hs : w.root.get p = some sub)
    (h : domain w β ty inVar = some ps) (r : Path) :
    r ∈ ps ↔ ∃ q t, sub.get q = some t ∧ t.sym = ty ∧ r = p ++ q := by
  rw [domain_of_get ty hb, hs] at h
  cases h
  simp only [List.mem_map, List.mem_filter, Prod.exists, DTree.mem_paths_iff, beq_iff_eq]
  constructor
  · rintro ⟨q, t, ⟨hg, hsym⟩, rfl⟩
    exact ⟨q, t, hg, hsym, rfl⟩
  · rintro ⟨q, t, hg, hsym, rfl⟩
    exact ⟨q, t, ⟨hg, hsym⟩, rfl⟩

theorem mem_treeInst (w : World) (β : Env) (v ty inVar : String) (ps : List Path)
    (h : domain w β ty inVar = some ps) (β' : Env) :
    β' ∈ ps.map (fun p => (v, Bind.path p) :: β) ↔ TreeInst w β v ty inVar β' := by
  obtain ⟨p, sub, h1, h2, _⟩ := domain_eq_some_iff.1 h
  unfold TreeInst
  rw [List.mem_map]
  constructor
  · rintro ⟨r, hr, rfl⟩
    obtain ⟨q, t, h3, h4, rfl⟩ := (mem_domain h1 h2 h r).1 hr
    exact ⟨p, sub, q, t, h1, h2, h3, h4, rfl⟩
  · rintro ⟨p', sub', q, t, h1', h2', h3, h4, rfl⟩
    exact ⟨p' ++ q, (mem_domain h1' h2' h _).2 ⟨q, t, h3, h4, rfl⟩, rfl⟩

theorem mem_matchInst (w : World) (β : Env) (v ty inVar : String) (ms : List MTree)
    (ps : List Path) (h : domain w β ty inVar = some ps) (β' : Env) :
    β' ∈ mexprInstances w β v ps ms ↔ MatchInst w β v ty inVar ms β' := by
  obtain ⟨p, sub, h1, h2, _⟩ := domain_eq_some_iff.1 h
  unfold mexprInstances MatchInst
  rw [List.mem_flatMap]
  constructor
  · rintro ⟨r, hr, hmem⟩
    obtain ⟨q, t, h3, h4, rfl⟩ := (mem_domain h1 h2 h r).1 hr
    rw [DTree.get_append_of_get h2, h3] at hmem
    obtain ⟨m, hm, hmem⟩ := List.mem_filterMap.1 hmem
    obtain ⟨bs, hbs, rfl⟩ := Option.map_eq_some_iff.1 hmem
    exact ⟨p, sub, q, t, m, bs, h1, h2, h3, h4, hm, hbs, rfl⟩
  · rintro ⟨p', sub', q, t, m, bs, h1', h2', h3, h4, hm, hbs, rfl⟩
    refine ⟨p' ++ q, (mem_domain h1' h2' h _).2 ⟨q, t, h3, h4, rfl⟩, ?_⟩
    rw [DTree.get_append_of_get h2', h3]
    exact List.mem_filterMap.2 ⟨m, hm, Option.map_eq_some_iff.2 ⟨bs, hbs, rfl⟩⟩

-- Each statement of the block is `Decides (evalRef w β f) (Sat w β f)` (for the list halves: `evalAll`
-- with `SatAll`, `evalAny` with `SatAny`) written out; the `Decides.*` lemmas apply by unfolding.
mutual
/-- Not assumed: that every atom has a defined value in every environment reached during
evaluation — the theorem speaks about definite answers only -/
theorem evalRef_sound' (w : World) : ∀ (β : Env) (f : Fm) (b : Bool),
    evalRef w β f = some b → (b = true ↔ Sat w β f)
  | _, .smt _ => Decides.self _
  | _, .pred _ _ => Decides.self _
  | _, .count _ _ _ => Decides.self _
  | β, .neg f => Decides.not (evalRef_sound' w β f)
  | β, .conj fs => evalAll_sound_aux w β fs
  | β, .disj fs => evalAny_sound_aux w β fs
  | β, .all v ty inVar none f => by
    unfold evalRef
    cases hd : domain w β ty inVar with
    | none => exact Decides.none
    | some ps => exact Decides.foldAnd (mem_treeInst w β v ty inVar ps hd) (evalRef_sound' w · f)
  | β, .ex v ty inVar none f => by
    unfold evalRef
    cases hd : domain w β ty inVar with
    | none => exact Decides.none
    | some ps => exact Decides.foldOr (mem_treeInst w β v ty inVar ps hd) (evalRef_sound' w · f)
  | β, .all v ty inVar (some ms) f => by
    unfold evalRef
    cases hd : domain w β ty inVar with
    | none => exact Decides.none
    | some ps => exact Decides.foldAnd (mem_matchInst w β v ty inVar ms ps hd) (evalRef_sound' w · f)
  | β, .ex v ty inVar (some ms) f => by
    unfold evalRef
    cases hd : domain w β ty inVar with
    | none => exact Decides.none
    | some ps => exact Decides.foldOr (mem_matchInst w β v ty inVar ms ps hd) (evalRef_sound' w · f)
  | β, .allInt v f => by
    -- only a counterexample below the bound is conclusive
    unfold evalRef
    split
    · rename_i hfold
      obtain ⟨β', hβ', hF⟩ := (foldAnd_eq_false _ _).1 hfold
      obtain ⟨n, _, rfl⟩ := List.mem_map.1 hβ'
      exact Decides.intro nofun fun _ hall => Decides.of_false (evalRef_sound' w _ f) hF (hall n)
    · exact Decides.none
  | β, .exInt v f => by
    -- only a witness below the bound is conclusive
    unfold evalRef
    split
    · rename_i hfold
      obtain ⟨β', hβ', hF⟩ := (foldOr_eq_true _ _).1 hfold
      obtain ⟨n, _, rfl⟩ := List.mem_map.1 hβ'
      exact Decides.intro (fun _ => ⟨n, Decides.of_true (evalRef_sound' w _ f) hF⟩) nofun
    · exact Decides.none
theorem evalAll_sound_aux (w : World) : ∀ (β : Env) (fs : List Fm) (b : Bool),
    evalAll w β fs = some b → (b = true ↔ SatAll w β fs)
  | _, [] => Decides.intro (fun _ => trivial) nofun
  | β, f :: fs => Decides.and (evalRef_sound' w β f) (evalAll_sound_aux w β fs)
theorem evalAny_sound_aux (w : World) : ∀ (β : Env) (fs : List Fm) (b : Bool),
    evalAny w β fs = some b → (b = true ↔ SatAny w β fs)
  | _, [] => Decides.intro nofun nofun
  | β, f :: fs => Decides.or (evalRef_sound' w β f) (evalAny_sound_aux w β fs)
end

theorem matchInst_list (w : World) (β : Env) (v ty c : String) (ms : List MTree) (β' : Env) :
    MatchInst w β v ty c ms β' ↔ ∃ m ∈ ms, MatchInst w β v ty c [m] β' := by
  constructor
  · rintro ⟨p, sub, q, t, m, bs, h1, h2, h3, h4, hm, h⟩
    exact ⟨m, hm, p, sub, q, t, m, bs, h1, h2, h3, h4, .head _, h⟩
  · rintro ⟨m, hm, p, sub, q, t, m', bs, h1, h2, h3, h4, hm', h⟩
    cases List.mem_singleton.1 hm'
    exact ⟨p, sub, q, t, m, bs, h1, h2, h3, h4, hm, h⟩

theorem satAll_map {α : Type} (w : World) (β : Env) (F : α → Fm) (l : List α) :
    SatAll w β (l.map F) ↔ ∀ a ∈ l, Sat w β (F a) := by
  induction l with
  | nil => exact iff_of_true trivial nofun
  | cons a l ih =>
    rw [List.forall_mem_cons, ← ih]
    rfl

theorem satAny_map {α : Type} (w : World) (β : Env) (F : α → Fm) (l : List α) :
    SatAny w β (l.map F) ↔ ∃ a ∈ l, Sat w β (F a) := by
  induction l with
  | nil => exact iff_of_false id nofun
  | cons a l ih =>
    simp only [List.mem_cons, exists_eq_or_imp, ← ih]
    rfl

end IslaVerif.Sem
