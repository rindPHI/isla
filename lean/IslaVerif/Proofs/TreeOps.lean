import IslaVerif.Model.TreeOps
import IslaVerif.Proofs.Grammar
import IslaVerif.Proofs.Basics
/-
Each executable test of Model/TreeOps.lean on two trees (`idPrefixOf`, `embedsAt`, `keepsNode`) has a
declarative reading (`IdPrefix`, `Embeds`, `KeepsNode`), which is what the statements of C12–C14 and C06 speak
of. The prefix test is characterised on a node once (`idPrefixOf_node_iff`); what an extension keeps
(`idPrefixOf_get`, `_get_inv`, `_closed`) then goes along a path or by `DTree.ind`, one child at a time.
-/
namespace IslaVerif
namespace DTree
open Grammar

/-- `b` is `a` with a tree put in the place of every open leaf, each with the identity and the symbol of the
leaf it stands for; expanded nodes keep identity, symbol and number of children. This is "every already
expanded part is unchanged" of C12 and "a completion with the same node identities" of C06; `idPrefixOf`
tests it. -/
inductive IdPrefix : DTree → DTree → Prop
  | leaf (i : Nat) (s : String) (b : DTree) : b.id = i → b.sym = s → IdPrefix (openLeaf i s) b
  | node (i : Nat) (s : String) (ks ks' : List DTree) :
      ks.length = ks'.length → (∀ n (h : n < ks.length) (h' : n < ks'.length), IdPrefix ks[n] ks'[n]) →
      IdPrefix (node i s ks) (node i s ks')

/-- as `IdPrefix`, except that an open leaf of `a` is a hole: what stands in its place in `b` needs its symbol
only (tree insertion plugs the host's own subtree, with the host's identities, into an open leaf of the
inserted tree). The clause "contains the inserted tree" of C13 and "every expanded part of the input is
unchanged" of the completion checker of C12; `embedsAt` tests it. -/
inductive Embeds : DTree → DTree → Prop
  | hole (i : Nat) (s : String) (b : DTree) : b.sym = s → Embeds (openLeaf i s) b
  | node (i : Nat) (s : String) (ks ks' : List DTree) :
      ks.length = ks'.length → (∀ n (h : n < ks.length) (h' : n < ks'.length), Embeds ks[n] ks'[n]) →
      Embeds (node i s ks) (node i s ks')

/-- node `v` of a result is node `u` of the host: same identity and symbol, and if `u` is expanded then `v` is
expanded by the same alternative (the same sequence of child symbols); an open leaf of the host may have
been expanded. The clause "keeps all original nodes" of C13 and C14; `keepsNode` tests it. -/
def KeepsNode (u v : DTree) : Prop :=
  v.id = u.id ∧ v.sym = u.sym ∧
  (∀ i s ks, u = node i s ks → ∃ j s' ks', v = node j s' ks' ∧ ks'.map DTree.sym = ks.map DTree.sym)

/-- the hypothesis of `C12.expandRun_ok` on the steps of a run: each step that `expandAt` carries out uses an
alternative of the grammar for the symbol of the leaf it expands. A step that does not apply (no open leaf at
its path) is not constrained, because `expandRun` skips it and goes on with the same tree. -/
def StepsOk (g : Grammar) : DTree → List (Path × List String × List Nat) → Prop
  | _, [] => True
  | t, (p, alt, ids) :: rest =>
    match expandAt g t p alt ids with
    | some t' => (∃ i s as, t.get p = some (openLeaf i s) ∧ alts g s = some as ∧ alt ∈ as) ∧ StepsOk g t' rest
    | none => StepsOk g t rest

theorem idPrefixOfL_iff_forall (ks ks' : List DTree) : idPrefixOfL ks ks' = true ↔
    ks.length = ks'.length ∧ ∀ n (h : n < ks.length) (h' : n < ks'.length), idPrefixOf ks[n] ks'[n] = true :=
  List.pointwise_iff rfl (fun _ _ => rfl) (fun _ _ => rfl) (fun _ _ _ _ => rfl) ks ks'

theorem idPrefixOf_node_iff {i : Nat} {s : String} {ks : List DTree} {t' : DTree} :
    idPrefixOf (node i s ks) t' = true ↔
      ∃ ks', t' = node i s ks' ∧ ks.length = ks'.length ∧
        ∀ n (h : n < ks.length) (h' : n < ks'.length), idPrefixOf ks[n] ks'[n] = true := by
  cases t' with
  | openLeaf j s' => exact ⟨nofun, nofun⟩
  | node j s' ks' =>
    simp only [idPrefixOf, Bool.and_eq_true, beq_iff_eq, idPrefixOfL_iff_forall]
    constructor
    · rintro ⟨⟨rfl, rfl⟩, h⟩
      exact ⟨ks', rfl, h⟩
    · rintro ⟨_, h, h'⟩
      cases h
      exact ⟨⟨rfl, rfl⟩, h'⟩

theorem idPrefixOf_id_sym_eq {a b : DTree} (h : idPrefixOf a b = true) : b.id = a.id ∧ b.sym = a.sym := by
  cases a with
  | openLeaf i s =>
    rw [idPrefixOf, Bool.and_eq_true, beq_iff_eq, beq_iff_eq] at h
    exact ⟨h.1.symm, h.2.symm⟩
  | node i s ks =>
    obtain ⟨ks', rfl, _⟩ := idPrefixOf_node_iff.1 h
    exact ⟨rfl, rfl⟩

theorem idPrefixOf_kid {t t' k : DTree} {j : Nat} (h : idPrefixOf t t' = true) (hk : t.kids[j]? = some k) :
    ∃ k', t'.kids[j]? = some k' ∧ idPrefixOf k k' = true := by
  cases t with
  | openLeaf i s => cases hk
  | node i s ks =>
    obtain ⟨ks', rfl, hl, hs⟩ := idPrefixOf_node_iff.1 h
    obtain ⟨hj, rfl⟩ := List.getElem?_eq_some_iff.1 hk
    exact ⟨ks'[j]'(hl ▸ hj), List.getElem?_eq_getElem _, hs j hj _⟩

theorem idPrefixOf_kid_inv {t t' k' : DTree} {j : Nat} (h : idPrefixOf t t' = true) (hk : t'.kids[j]? = some k') :
    (∃ i s, t = openLeaf i s) ∨ ∃ k, t.kids[j]? = some k ∧ idPrefixOf k k' = true := by
  cases t with
  | openLeaf i s => exact Or.inl ⟨i, s, rfl⟩
  | node i s ks =>
    obtain ⟨ks', rfl, hl, hs⟩ := idPrefixOf_node_iff.1 h
    obtain ⟨hj, rfl⟩ := List.getElem?_eq_some_iff.1 hk
    exact Or.inr ⟨ks[j]'(hl ▸ hj), List.getElem?_eq_getElem _, hs j _ hj⟩

theorem idPrefixOf_get : ∀ (p : Path) (t t' u : DTree), idPrefixOf t t' = true → t.get p = some u →
    ∃ u', t'.get p = some u' ∧ idPrefixOf u u' = true := by
  intro p
  induction p with
  | nil =>
    intro t t' u h hg
    cases hg
    exact ⟨t', rfl, h⟩
  | cons j p ih =>
    intro t t' u h hg
    rw [get_cons] at hg ⊢
    obtain ⟨k, hk, hu⟩ := Option.bind_eq_some_iff.1 hg
    obtain ⟨k', hk', hkk⟩ := idPrefixOf_kid h hk
    rw [hk']
    exact ih k k' u hkk hu

theorem idPrefixOf_get_inv : ∀ (q : Path) (t t' x' : DTree), idPrefixOf t t' = true →
    t'.get q = some x' →
    (∃ x, t.get q = some x ∧ idPrefixOf x x' = true) ∨
    (∃ q0 q1 i s u', q = q0 ++ q1 ∧ q1 ≠ [] ∧ t.get q0 = some (.openLeaf i s) ∧
      t'.get q0 = some u' ∧ u'.sym = s ∧ u'.get q1 = some x') := by
  intro q
  induction q with
  | nil =>
    intro t t' x' h hg
    cases hg
    exact Or.inl ⟨t, rfl, h⟩
  | cons j q ih =>
    intro t t' x' h hg
    obtain ⟨k', hk', hx'⟩ := Option.bind_eq_some_iff.1 ((get_cons t' j q).symm.trans hg)
    rcases idPrefixOf_kid_inv h hk' with ⟨i, s, rfl⟩ | ⟨k, hk, hkk⟩
    · exact Or.inr ⟨[], j :: q, i, s, t', rfl, nofun, rfl, rfl, (idPrefixOf_id_sym_eq h).2, hg⟩
    · rcases ih k k' x' hkk hx' with ⟨x, hx, hxx⟩ | ⟨q0, q1, i0, s0, u', rfl, hne, h1, h2, h3, h4⟩
      · exact Or.inl ⟨x, by rw [get_cons, hk]; exact hx, hxx⟩
      · refine Or.inr ⟨j :: q0, q1, i0, s0, u', rfl, hne, ?_, ?_, h3, h4⟩
        · rw [get_cons, hk]; exact h1
        · rw [get_cons, hk']; exact h2

theorem idPrefixOf_closed : ∀ (u u' : DTree), u.hasOpen = false → idPrefixOf u u' = true → u' = u := by
  intro u
  induction u using ind with
  | leaf i s => exact fun _ hc => nomatch hc
  | node i s ks ih =>
    intro u' hc h
    obtain ⟨ks', rfl, hl, hs⟩ := idPrefixOf_node_iff.1 h
    rw [hasOpen_node] at hc
    congr 1
    refine List.ext_getElem hl.symm fun n h' hn => ?_
    have hcn : ks[n].hasOpen = false := Bool.eq_false_iff.2 (List.any_eq_false.1 hc _ (List.getElem_mem hn))
    exact ih _ (List.getElem_mem hn) _ hcn (hs n hn h')

theorem idPrefixOf_get_closed {t t' u : DTree} {p : Path}
    (hp : idPrefixOf t t' = true) (hg : t.get p = some u) (hc : u.closed = true) :
    t'.get p = some u := by
  obtain ⟨u', hu', hpu⟩ := idPrefixOf_get p t t' u hp hg
  rw [hu', idPrefixOf_closed u u' ((closed_iff _).1 hc) hpu]

theorem idPrefixOf_iff' (a : DTree) : ∀ b, idPrefixOf a b = true ↔ IdPrefix a b := by
  induction a using ind with
  | leaf i s =>
    intro b
    simp only [idPrefixOf, Bool.and_eq_true, beq_iff_eq]
    constructor
    · rintro ⟨h1, h2⟩
      exact .leaf i s b h1.symm h2.symm
    · rintro ⟨_, _, _, h1, h2⟩
      exact ⟨h1.symm, h2.symm⟩
  | node i s ks ih =>
    intro b
    rw [idPrefixOf_node_iff]
    constructor
    · rintro ⟨ks', rfl, hl, h⟩
      exact .node i s ks ks' hl fun n h1 h2 => (ih _ (List.getElem_mem h1) _).1 (h n h1 h2)
    · rintro (_ | ⟨_, _, _, ks', hl, h⟩)
      exact ⟨ks', rfl, hl, fun n h1 h2 => (ih _ (List.getElem_mem h1) _).2 (h n h1 h2)⟩

theorem idPrefixOfL_iff_aux : ∀ (ks ks' : List DTree), idPrefixOfL ks ks' = true ↔
    ks.length = ks'.length ∧ ∀ n (h : n < ks.length) (h' : n < ks'.length), IdPrefix ks[n] ks'[n] := by
  intro ks ks'
  simp only [idPrefixOfL_iff_forall, idPrefixOf_iff']

theorem idPrefixOf_refl' (t : DTree) : idPrefixOf t t = true := by
  induction t using ind with
  | leaf i s => exact Bool.and_eq_true_iff.2 ⟨beq_iff_eq.2 rfl, beq_iff_eq.2 rfl⟩
  | node i s ks ih => exact idPrefixOf_node_iff.2 ⟨ks, rfl, rfl, fun n h _ => ih _ (List.getElem_mem h)⟩

theorem idPrefixOfL_refl_aux : ∀ (ks : List DTree), idPrefixOfL ks ks = true := fun ks =>
  (idPrefixOfL_iff_forall ks ks).2 ⟨rfl, fun _ _ _ => idPrefixOf_refl' _⟩

theorem idPrefixOf_trans (a : DTree) : ∀ b c, idPrefixOf a b = true → idPrefixOf b c = true →
    idPrefixOf a c = true := by
  induction a using ind with
  | leaf i s =>
    intro b c h1 h2
    have hb := idPrefixOf_id_sym_eq h2
    rw [idPrefixOf, hb.1, hb.2]
    exact h1
  | node i s ks ih =>
    intro b c h1 h2
    obtain ⟨ks', rfl, hl1, h1⟩ := idPrefixOf_node_iff.1 h1
    obtain ⟨ks'', rfl, hl2, h2⟩ := idPrefixOf_node_iff.1 h2
    exact idPrefixOf_node_iff.2 ⟨ks'', rfl, hl1.trans hl2, fun n h h' =>
      ih _ (List.getElem_mem h) _ _ (h1 n h (hl1 ▸ h)) (h2 n (hl1 ▸ h) h')⟩

theorem idPrefixOfL_trans_aux : ∀ (as bs cs : List DTree), idPrefixOfL as bs = true → idPrefixOfL bs cs = true →
    idPrefixOfL as cs = true := by
  intro as bs cs h1 h2
  rw [idPrefixOfL_iff_forall] at h1 h2 ⊢
  exact ⟨h1.1.trans h2.1, fun n h h' =>
    idPrefixOf_trans _ _ _ (h1.2 n h (h1.1 ▸ h)) (h2.2 n (h1.1 ▸ h) h')⟩

theorem idPrefixOf_replace (p : Path) (t u t' : DTree) (i : Nat) (s : String)
    (hg : t.get p = some (openLeaf i s)) (hi : u.id = i) (hs : u.sym = s) (hr : t.replace p u = some t') :
    idPrefixOf t t' = true := by
  revert hg
  refine replace_ind (fun t hg => ?_) (fun i' s' ks j p k' hj _ ih hg => ?_) hr
  · cases hg
    exact Bool.and_eq_true_iff.2 ⟨beq_iff_eq.2 hi.symm, beq_iff_eq.2 hs.symm⟩
  · rw [get_node_cons, List.getElem?_eq_getElem hj] at hg
    refine idPrefixOf_node_iff.2 ⟨_, rfl, (List.length_set ..).symm, fun n h h' => ?_⟩
    rw [List.getElem_set]
    split
    · subst n; exact ih hg
    · exact idPrefixOf_refl' _

theorem altKids_cons (g : Grammar) (x : String) (xs : List String) (ids : List Nat) :
    altKids g (x :: xs) ids = ((x :: xs).zip (ids ++ List.replicate (x :: xs).length 0)).map fun (s, i) =>
      if isNT g s then openLeaf i s else node i s [] := by
  cases ids <;> rfl

theorem altKids_valid_kidsMatch (g : Grammar) (alt : List String) (ids : List Nat) (h0 : isNT g "" = false) :
    (∀ k ∈ altKids g alt ids, k.valid g = true) ∧ kidsMatch alt ((altKids g alt ids).map DTree.sym) = true := by
  cases alt with
  | nil =>
    -- ε: the single child `("", [])`, a terminal leaf
    have hε : ∀ i, ∀ k ∈ [node i "" []], k.valid g = true := fun i k hk => by
      cases List.mem_singleton.1 hk
      exact valid_node_iff.2 ⟨Or.inl ⟨not_isNT_alts h0, rfl⟩, nofun⟩
    cases ids <;> exact ⟨hε _, rfl⟩
  | cons x xs =>
    rw [altKids_cons]
    constructor
    · intro k hk
      obtain ⟨⟨s, i⟩, _, rfl⟩ := List.mem_map.1 hk
      exact valid_symLeaf g s i
    · -- either leaf carries the symbol it was made for
      have hsym (p : String × Nat) :
          (DTree.sym ∘ fun (s, i) => if isNT g s then openLeaf i s else node i s []) p = p.1 := by
        dsimp only [Function.comp]
        split <;> rfl
      -- there are at least as many identities as symbols
      have hlen : (x :: xs).length ≤ (ids ++ List.replicate (x :: xs).length 0).length := by
        rw [List.length_append, List.length_replicate]
        omega
      rw [List.map_map, List.map_congr_left (g := Prod.fst) fun p _ => hsym p, List.map_fst_zip hlen]
      exact kidsMatch_iff.2 (Or.inl rfl)

/-- the node an expansion step puts in the place of an open leaf -/
theorem valid_altNode (g : Grammar) (i : Nat) (s : String) (alt : List String) (ids : List Nat)
    (as : List (List String)) (hs : alts g s = some as) (ha : alt ∈ as) (h0 : isNT g "" = false) :
    (node i s (altKids g alt ids)).valid g = true :=
  have ⟨h1, h2⟩ := altKids_valid_kidsMatch g alt ids h0
  valid_node_iff.2 ⟨Or.inr ⟨alt, hs ▸ ha, h2⟩, h1⟩

theorem embedsAtL_iff_forall (ks ks' : List DTree) : embedsAtL ks ks' = true ↔
    ks.length = ks'.length ∧ ∀ n (h : n < ks.length) (h' : n < ks'.length), embedsAt ks[n] ks'[n] = true :=
  List.pointwise_iff rfl (fun _ _ => rfl) (fun _ _ => rfl) (fun _ _ _ _ => rfl) ks ks'

theorem embedsAt_iff' (a : DTree) : ∀ b, embedsAt a b = true ↔ Embeds a b := by
  induction a using ind with
  | leaf i s =>
    intro b
    simp only [embedsAt, beq_iff_eq]
    constructor
    · exact fun h => .hole i s b h.symm
    · rintro ⟨_, _, _, h⟩
      exact h.symm
  | node i s ks ih =>
    intro b
    cases b with
    | openLeaf j s' => exact ⟨nofun, nofun⟩
    | node j s' ks' =>
      simp only [embedsAt, Bool.and_eq_true, beq_iff_eq, embedsAtL_iff_forall]
      constructor
      · rintro ⟨⟨rfl, rfl⟩, hl, h⟩
        exact .node i s ks ks' hl fun n h1 h2 => (ih _ (List.getElem_mem h1) _).1 (h n h1 h2)
      · rintro (_ | ⟨_, _, _, _, hl, h⟩)
        exact ⟨⟨rfl, rfl⟩, hl, fun n h1 h2 => (ih _ (List.getElem_mem h1) _).2 (h n h1 h2)⟩

theorem embedsAtL_iff_aux : ∀ (ks ks' : List DTree), embedsAtL ks ks' = true ↔
    ks.length = ks'.length ∧ ∀ n (h : n < ks.length) (h' : n < ks'.length), Embeds ks[n] ks'[n] := by
  intro ks ks'
  simp only [embedsAtL_iff_forall, embedsAt_iff']

theorem embedsAt_sym_eq (a b : DTree) (h : embedsAt a b = true) : b.sym = a.sym := by
  cases ((embedsAt_iff' a b).1 h) with
  | hole i s b h => exact h
  | node i s ks ks' => rfl

theorem keepsNode_iff' (u v : DTree) : keepsNode u v = true ↔ KeepsNode u v := by
  unfold keepsNode KeepsNode
  rw [Bool.and_eq_true, Bool.and_eq_true, beq_iff_eq, beq_iff_eq, and_assoc]
  refine and_congr_right fun _ => and_congr_right fun _ => ?_
  cases u with
  | openLeaf i s => exact ⟨fun _ _ _ _ h => (nomatch h), fun _ => rfl⟩
  | node i s ks =>
    cases v with
    | openLeaf j s' => exact ⟨nofun, fun h => by obtain ⟨_, _, _, h', _⟩ := h i s ks rfl; cases h'⟩
    | node j s' ks' =>
      refine beq_iff_eq.trans ⟨fun h _ _ _ e => ?_, fun h => ?_⟩
      · cases e; exact ⟨j, s', ks', rfl, h⟩
      · obtain ⟨_, _, _, e, h⟩ := h i s ks rfl
        cases e; exact h

/-- the node-keeping clause of the insertion and count checkers -/
theorem keeps_of_check {host r : DTree}
    (h : host.paths.all (fun pu => r.paths.any fun qv => keepsNode pu.2 qv.2) = true) (p : Path) (u : DTree)
    (hg : host.get p = some u) : ∃ q v, r.get q = some v ∧ KeepsNode u v := by
  obtain ⟨q, v, hq, hk⟩ := (any_paths_iff r _).1 ((all_paths_iff host _).1 h p u hg)
  exact ⟨q, v, hq, (keepsNode_iff' u v).1 hk⟩

end DTree
end IslaVerif
