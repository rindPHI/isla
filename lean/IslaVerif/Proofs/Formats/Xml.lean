import IslaVerif.Proofs.Formats.Common
/-
`xmlOk` accepts exactly the texts whose tokens are one `Element`: `Tokenizes` cuts the text into characters and
tags as `parseTag` reads them, `Content` / `Element` say which token sequences are well formed. These inductive
specifications are trusted: they are what "valid" means in Properties/C21.lean. Soundness: the state
`(stack, seen)` of the scanner says what is still to come (`Closes`). Completeness: scanning `Content` inside an
open element comes back to the same stack (`xmlScan_content`).
-/
namespace IslaVerif.Formats

/-- lexical items of a document: a character of text, or a tag -/
inductive Token where
  | text (c : Char)
  | tag (t : Tag)

/-- `s` is the concatenation of the given tokens: text characters other than `<`, and tags as
read by `parseTag` after a `<` -/
inductive Tokenizes : List Char → List Token → Prop
  | nil : Tokenizes [] []
  | text {c : Char} {rest : List Char} {ts : List Token} :
      c ≠ '<' → Tokenizes rest ts → Tokenizes (c :: rest) (.text c :: ts)
  | tag {rest rest' : List Char} {t : Tag} {ts : List Token} :
      parseTag rest = some (t, rest') → Tokenizes rest' ts → Tokenizes ('<' :: rest) (.tag t :: ts)

/-- element content in namespace scope `sc`: a sequence of text characters, empty elements and
elements `<o> body </c>` with matching names, whose tags satisfy `tagOk` in their scope and whose
body is content in the scope extended by the prefixes declared by `o` -/
inductive Content : List (List Char) → List Token → Prop
  | nil {sc} : Content sc []
  | text {sc} {c : Char} {rest} : Content sc rest → Content sc (.text c :: rest)
  | selfClosing {sc} {t : Tag} {rest} :
      t.kind = .selfClosing → tagOk sc t = true → Content sc rest → Content sc (.tag t :: rest)
  | node {sc} {o c : Tag} {body rest} :
      o.kind = .opening → tagOk sc o = true → c.kind = .closing → c.name = o.name →
      Content (declared o ++ sc) body → Content sc rest →
      Content sc (.tag o :: body ++ .tag c :: rest)

/-- one element and nothing else: an item of `Content` other than text, with no `rest`; a document is
an `Element []` -/
inductive Element (sc : List (List Char)) : List Token → Prop
  | selfClosing {t : Tag} : t.kind = .selfClosing → tagOk sc t = true → Element sc [.tag t]
  | node {o c : Tag} {body} :
      o.kind = .opening → tagOk sc o = true → c.kind = .closing → c.name = o.name →
      Content (declared o ++ sc) body → Element sc (.tag o :: body ++ [.tag c])

/-- number of tags of kind `k` -/
def countKind (k : TagKind) : List Token → Nat
  | [] => 0
  | .text _ :: ts => countKind k ts
  | .tag t :: ts => (if t.kind = k then 1 else 0) + countKind k ts

theorem tagOk_iff (scope : List (List Char)) (t : Tag) :
    tagOk scope t = true ↔
      (t.attrs.map (·.1)).Nodup ∧
      (∀ p, prefixOf t.name = some p → p ∈ declared t ++ scope) ∧
      ∀ a ∈ t.attrs, ∀ p, prefixOf a.1 = some p → p = xmlns ∨ p ∈ declared t ++ scope := by
  unfold tagOk
  simp only [Bool.and_eq_true, noDup_iff, List.all_eq_true, and_assoc]
  refine and_congr Iff.rfl (and_congr ?_ ?_)
  · cases prefixOf t.name with
    | none => exact iff_of_true rfl nofun
    | some q => simp only [List.contains_iff_mem, Option.some.injEq, forall_eq']
  · refine forall_congr' fun a => forall_congr' fun _ => ?_
    obtain ⟨n, v⟩ := a
    cases prefixOf n with
    | none => exact iff_of_true rfl nofun
    | some q => simp only [Bool.or_eq_true, beq_iff_eq, List.contains_iff_mem, Option.some.injEq, forall_eq']

/-- the `∃ toks` of `xmlOk_iff` is determinate -/
theorem Tokenizes.unique {s : List Char} {t₁ t₂ : List Token} (h₁ : Tokenizes s t₁) (h₂ : Tokenizes s t₂) :
    t₁ = t₂ := by
  induction h₁ generalizing t₂ with
  | nil => cases h₂; rfl
  | text hc _ ih =>
    cases h₂ with
    | text _ h => rw [ih h]
    | tag _ _ => exact absurd rfl hc
  | tag hp _ ih =>
    cases h₂ with
    | text hc _ => exact absurd rfl hc
    | tag hp' h =>
      cases hp.symm.trans hp'
      rw [ih h]

theorem Content.elem {sc e rest} (he : Element sc e) (hr : Content sc rest) : Content sc (e ++ rest) := by
  cases he with
  | selfClosing h1 h2 => exact Content.selfClosing h1 h2 hr
  | node h1 h2 h3 h4 h5 =>
    have := Content.node h1 h2 h3 h4 h5 hr
    simpa using this

theorem Element.content {sc toks} (h : Element sc toks) : Content sc toks := by
  have := Content.elem h .nil
  simpa using this

theorem countKind_append (k : TagKind) (a b : List Token) :
    countKind k (a ++ b) = countKind k a + countKind k b := by
  induction a with
  | nil => exact (Nat.zero_add _).symm
  | cons x xs ih =>
    cases x with
    | text c => exact ih
    | tag t => rw [List.cons_append, countKind, countKind, ih, Nat.add_assoc]

theorem Content.balanced {sc toks} (h : Content sc toks) :
    countKind .opening toks = countKind .closing toks := by
  induction h with
  | nil => rfl
  | text _ ih => exact ih
  | selfClosing hk _ _ ih => simpa [countKind, hk] using ih
  | node hk _ hck _ _ _ ih1 ih2 =>
    simp only [countKind, countKind_append, hk, hck, ih1, ih2, if_true, reduceCtorEq, if_false, Nat.zero_add]
    omega

/-- the `scope` of `xmlScan` (Model/Formats.lean) -/
def scopeOf : List (List Char × List (List Char)) → List (List Char)
  | [] => []
  | (_, sc) :: _ => sc

section
variable {f : Nat} {rest rest' : List Char} {t : Tag} {stack : List (List Char × List (List Char))} {seen : Bool}

theorem xmlScan_text {c : Char} (hc : c ≠ '<') :
    xmlScan (f + 1) (c :: rest) stack seen = (!stack.isEmpty && xmlScan f rest stack seen) := by
  rw [xmlScan, bne_iff_ne.2 hc, Bool.and_true]
  exact hc

theorem xmlScan_tag (hp : parseTag rest = some (t, rest')) :
    xmlScan (f + 1) ('<' :: rest) stack seen =
      match t.kind with
      | .closing =>
        (match stack with
          | (nm, _) :: st => nm == t.name && xmlScan f rest' st seen
          | [] => false)
      | .opening =>
        decide (stack.isEmpty → !seen) && tagOk (scopeOf stack) t &&
          xmlScan f rest' ((t.name, declared t ++ scopeOf stack) :: stack) true
      | .selfClosing =>
        decide (stack.isEmpty → !seen) && tagOk (scopeOf stack) t && xmlScan f rest' stack true := by
  -- the `'<'` arm of `xmlScan` by computation; its `scope` is `scopeOf stack` written as a `match`
  show (match parseTag rest with | none => false | some (t, rest') => _) = _
  rw [hp]
  rfl

theorem xmlScan_tag_none (hp : parseTag rest = none) : xmlScan (f + 1) ('<' :: rest) stack seen = false := by
  show (match parseTag rest with | none => false | some (t, rest') => _) = false
  rw [hp]

theorem xmlScan_open (hp : parseTag rest = some (t, rest')) (hk : t.kind = .opening)
    (hok : tagOk (scopeOf stack) t = true) (hs : stack = [] → seen = false) :
    xmlScan (f + 1) ('<' :: rest) stack seen =
      xmlScan f rest' ((t.name, declared t ++ scopeOf stack) :: stack) true := by
  have hroot : decide (stack.isEmpty → !seen) = true :=
    decide_eq_true fun h => by rw [hs (List.isEmpty_iff.1 h)]; rfl
  rw [xmlScan_tag hp, hk]
  simp only [hroot, hok, Bool.true_and]

theorem xmlScan_close {n : List Char} {sc : List (List Char)} (hp : parseTag rest = some (t, rest'))
    (hk : t.kind = .closing) (hn : t.name = n) :
    xmlScan (f + 1) ('<' :: rest) ((n, sc) :: stack) seen = xmlScan f rest' stack seen := by
  rw [xmlScan_tag hp, hk]
  simp only [hn, beq_self_eq_true, Bool.true_and]

end

theorem xmlOk_nil : xmlOk [] = false := rfl

theorem xmlScan_text_outside (f : Nat) (c : Char) (rest : List Char) (seen : Bool) (hc : c ≠ '<') :
    xmlScan (f + 1) (c :: rest) [] seen = false := by
  rw [xmlScan_text hc]; rfl

theorem xmlScan_close_mismatch (f : Nat) (rest rest' : List Char) (t : Tag) (n : List Char)
    (sc : List (List Char)) (st : List (List Char × List (List Char))) (seen : Bool)
    (hp : parseTag rest = some (t, rest')) (hk : t.kind = .closing) (hn : n ≠ t.name) :
    xmlScan (f + 1) ('<' :: rest) ((n, sc) :: st) seen = false := by
  rw [xmlScan_tag hp, hk]
  simp [hn]

theorem xmlScan_close_unopened (f : Nat) (rest rest' : List Char) (t : Tag) (seen : Bool)
    (hp : parseTag rest = some (t, rest')) (hk : t.kind = .closing) :
    xmlScan (f + 1) ('<' :: rest) [] seen = false := by
  rw [xmlScan_tag hp, hk]

theorem xmlScan_second_root (f : Nat) (rest rest' : List Char) (t : Tag)
    (hp : parseTag rest = some (t, rest')) (hk : t.kind ≠ .closing) :
    xmlScan (f + 1) ('<' :: rest) [] true = false := by
  rw [xmlScan_tag hp]
  cases h : t.kind with
  | closing => exact absurd h hk
  | opening | selfClosing => rfl

/-- The invariant of `xmlScan_sound`: what the scanner in state `(stack, seen)` has still to read. Inside an
element `seen` plays no part, and the state below is `(st, true)` because the scanner set `seen` when it
pushed `n`. -/
def Closes : List (List Char × List (List Char)) → Bool → List Token → Prop
  | [], true, toks => toks = []
  | [], false, toks => Element [] toks
  | (n, sc) :: st, _, toks => ∃ body c rest, toks = body ++ .tag c :: rest ∧ Content sc body ∧
      c.kind = .closing ∧ c.name = n ∧ Closes st true rest

theorem Closes.prepend {stack seen e rest} (he : Element (scopeOf stack) e) (hr : Closes stack true rest)
    (h1 : stack = [] → seen = false) : Closes stack seen (e ++ rest) := by
  cases stack with
  | nil =>
    obtain rfl : rest = [] := hr
    rw [h1 rfl, List.append_nil]
    exact he
  | cons p st =>
    obtain ⟨n, sc⟩ := p
    obtain ⟨body, c, rest', rfl, hb, hk, hn, hc⟩ := hr
    exact ⟨e ++ body, c, rest', by simp, Content.elem he hb, hk, hn, hc⟩

/-- One token per unit of fuel.  The hypothesis `stack ≠ [] → seen = true` is for the closing tag: there the
scanner pops and passes `seen` on as it is, and `Closes` asks for `Closes st true` below.  It holds
throughout because the scanner sets `seen` whenever it pushes. -/
theorem xmlScan_sound : ∀ (f : Nat) (s : List Char) (stack : List (List Char × List (List Char))) (seen : Bool),
    xmlScan f s stack seen = true → (stack ≠ [] → seen = true) →
    ∃ toks, Tokenizes s toks ∧ Closes stack seen toks := by
  intro f
  induction f with
  | zero =>
    intro s stack seen h
    cases h
  | succ f ih =>
    intro s stack seen h hinv
    cases s with
    | nil =>
      obtain ⟨hs, rfl⟩ : stack.isEmpty = true ∧ seen = true := Bool.and_eq_true_iff.1 h
      cases List.isEmpty_iff.1 hs
      exact ⟨[], .nil, rfl⟩
    | cons c rest =>
      by_cases hc : c = '<'
      · subst hc
        cases hp : parseTag rest with
        | none => rw [xmlScan_tag_none hp] at h; cases h
        | some p =>
          obtain ⟨t, rest'⟩ := p
          rw [xmlScan_tag hp] at h
          cases hk : t.kind with
          | closing =>
            simp only [hk] at h
            cases stack with
            | nil => cases h
            | cons p st =>
              obtain ⟨n, sc⟩ := p
              -- inside an element the root has been seen, so the state popped to is `(st, true)`
              obtain rfl := hinv (List.cons_ne_nil _ _)
              simp only [Bool.and_eq_true, beq_iff_eq] at h
              obtain ⟨rfl, hscan⟩ := h
              obtain ⟨toks, ht, hcl⟩ := ih _ _ _ hscan (fun _ => rfl)
              -- `t` closes `n` after an empty body
              exact ⟨.tag t :: toks, .tag hp ht, [], t, toks, rfl, .nil, hk, rfl, hcl⟩
          | opening =>
            simp only [hk, Bool.and_eq_true, decide_eq_true_eq, List.isEmpty_iff, Bool.not_eq_true'] at h
            obtain ⟨⟨hs, hok⟩, hscan⟩ := h
            -- what follows closes the element `t` opens: with `t` in front it is an `Element`
            obtain ⟨toks, ht, body, c, rest2, rfl, hb, hck, hcn, hcl⟩ := ih _ _ _ hscan (fun _ => rfl)
            refine ⟨.tag t :: (body ++ .tag c :: rest2), .tag hp ht, ?_⟩
            have := Closes.prepend (.node hk hok hck hcn hb) hcl hs
            simpa using this
          | selfClosing =>
            simp only [hk, Bool.and_eq_true, decide_eq_true_eq, List.isEmpty_iff, Bool.not_eq_true'] at h
            obtain ⟨⟨hs, hok⟩, hscan⟩ := h
            obtain ⟨toks, ht, hcl⟩ := ih _ _ _ hscan (fun _ => rfl)
            exact ⟨.tag t :: toks, .tag hp ht, Closes.prepend (.selfClosing hk hok) hcl hs⟩
      · rw [xmlScan_text hc] at h
        simp only [Bool.and_eq_true, Bool.not_eq_true', List.isEmpty_eq_false_iff] at h
        obtain ⟨toks, ht, hcl⟩ := ih rest stack seen h.2 hinv
        refine ⟨.text c :: toks, .text hc ht, ?_⟩
        cases stack with
        | nil => exact absurd rfl h.1
        | cons p st =>
          obtain ⟨body, c', rest', rfl, hb, hcl⟩ := hcl
          exact ⟨.text c :: body, c', rest', rfl, .text hb, hcl⟩

theorem xmlOk_sound (s : List Char) (h : xmlOk s = true) :
    ∃ toks, Tokenizes s toks ∧ Element [] toks :=
  xmlScan_sound _ s [] false h (fun h => absurd rfl h)

theorem parseAttrs_length {f : Nat} {s : List Char} {acc : List (List Char × List Char)}
    {k : TagKind} {a : List (List Char × List Char)} {r : List Char}
    (h : parseAttrs f s acc = some (k, a, r)) : r.length ≤ s.length := by
  fun_induction parseAttrs f s acc
  case case1 => cases h
  case case2 => cases h; exact Nat.le_succ _
  case case3 => cases h; exact Nat.le_succ_of_le (Nat.le_succ _)
  case case4 ih => exact Nat.le_succ_of_le (ih h)
  case case5 => cases h
  case case6 h1 h2 ih =>
    -- in length, `r ≤ r4 < '"' :: r4 ≤ r2` and `r2 + 2 = '=' :: '"' :: r2 ≤ s`
    have l0 := ih h
    have l1 := h1 ▸ takeUntil_length _ _
    have l2 := h2 ▸ takeUntil_length _ _
    simp only [List.length_cons] at l1 l2
    omega
  case case7 => cases h
  case case8 => cases h

theorem parseTag_length {s : List Char} {t : Tag} {r : List Char} (h : parseTag s = some (t, r)) :
    r.length ≤ s.length := by
  unfold parseTag at h
  split at h
  · split at h
    next nm r₁ hg =>
      -- `hg`: the name ends before `r₁`, a part of the text after `/`
      have l1 := hg ▸ takeUntil_length _ _
      split at h
      · split at h
        · cases h
        · cases h
          simp only [List.length_cons] at l1 ⊢
          omega
      · cases h
  · split at h
    next nm r₁ hg =>
      have l1 := hg ▸ takeUntil_length _ _
      dsimp only at l1
      split at h
      · cases h
      · split at h
        · next k attrs r' hp =>
          cases h
          have l2 := parseAttrs_length hp
          omega
        · cases h

theorem parseTag_fuel {f : Nat} {rest rest' : List Char} {t : Tag} (hp : parseTag rest = some (t, rest'))
    (hf : ('<' :: rest).length < f + 1) : rest'.length < f := by
  have := parseTag_length hp
  rw [List.length_cons] at hf
  omega

/-- the fuel is carried along (`s.length < f`) because the scanner gives up at fuel 0 -/
theorem xmlScan_content {sc : List (List Char)} {body : List Token} (hb : Content sc body) :
    ∀ (s : List Char) (toksRest : List Token) (f : Nat) (stack : List (List Char × List (List Char))),
      Tokenizes s (body ++ toksRest) → stack ≠ [] → scopeOf stack = sc → s.length < f →
      ∃ s' f', Tokenizes s' toksRest ∧ s'.length < f' ∧
        xmlScan f s stack true = xmlScan f' s' stack true := by
  induction hb with
  | nil => intro s toksRest f stack ht _ _ hf; exact ⟨s, f, ht, hf, rfl⟩
  | text hr ih =>
    intro s toksRest f stack ht hne hsc hf
    obtain ⟨f, rfl⟩ := Nat.exists_eq_add_one.2 (Nat.zero_lt_of_lt hf)
    cases ht with
    | text hc ht' =>
      obtain ⟨s', f', h1, h2, h3⟩ := ih _ _ f stack ht' hne hsc (Nat.lt_of_succ_lt_succ hf)
      refine ⟨s', f', h1, h2, ?_⟩
      rw [xmlScan_text hc, ← h3, List.isEmpty_eq_false_iff.2 hne]
      rfl
  | selfClosing hk hok hr ih =>
    intro s toksRest f stack ht hne hsc hf
    obtain ⟨f, rfl⟩ := Nat.exists_eq_add_one.2 (Nat.zero_lt_of_lt hf)
    cases ht with
    | tag hp ht' =>
      obtain ⟨s', f', h1, h2, h3⟩ := ih _ _ f stack ht' hne hsc (parseTag_fuel hp hf)
      refine ⟨s', f', h1, h2, ?_⟩
      rw [xmlScan_tag hp, hk, ← h3, hsc, hok, List.isEmpty_eq_false_iff.2 hne]
      rfl
  | @node _ o _ _ _ hk hok hck hcn hbody hr ihb ihr =>
    intro s toksRest f stack ht hne hsc hf
    obtain ⟨f, rfl⟩ := Nat.exists_eq_add_one.2 (Nat.zero_lt_of_lt hf)
    subst hsc
    simp only [List.cons_append, List.append_assoc] at ht
    cases ht with
    | tag hp ht' =>
      obtain ⟨s₁, f₁, h1, h2, h3⟩ := ihb _ _ f ((o.name, _) :: stack) ht' (List.cons_ne_nil _ _) rfl
        (parseTag_fuel hp hf)
      obtain ⟨f₁, rfl⟩ := Nat.exists_eq_add_one.2 (Nat.zero_lt_of_lt h2)
      cases h1 with
      | tag hp' ht'' =>
        obtain ⟨s', f', h4, h5, h6⟩ := ihr _ _ f₁ stack ht'' hne rfl (parseTag_fuel hp' h2)
        refine ⟨s', f', h4, h5, ?_⟩
        rw [xmlScan_open hp hk hok (absurd · hne), h3, xmlScan_close hp' hck hcn, h6]

theorem xmlOk_complete (s : List Char) (toks : List Token) (ht : Tokenizes s toks)
    (he : Element [] toks) : xmlOk s = true := by
  unfold xmlOk
  cases he with
  | selfClosing hk hok =>
    cases ht with
    | tag hp ht' =>
      cases ht'
      rw [List.length_cons, xmlScan_tag hp, hk, show tagOk (scopeOf []) _ = true from hok]
      rfl
  | @node o _ _ hk hok hck hcn hbody =>
    cases ht with
    | tag hp ht' =>
      obtain ⟨s₁, f₁, h1, h2, h3⟩ := xmlScan_content hbody _ _ _ [(o.name, _ ++ scopeOf [])] ht'
        (List.cons_ne_nil _ _) rfl (parseTag_fuel hp (Nat.lt_succ_self _))
      cases h1 with
      | tag hp' ht'' =>
        cases ht''
        -- fuel is left for the closing tag, and for the end of the text after it
        obtain ⟨f₁, rfl⟩ := Nat.exists_eq_add_one.2 (Nat.zero_lt_of_lt h2)
        obtain ⟨f₂, rfl⟩ := Nat.exists_eq_add_one.2 (parseTag_fuel hp' h2)
        rw [List.length_cons] at h3 ⊢
        rw [xmlScan_open (stack := []) hp hk hok (fun _ => rfl), h3, xmlScan_close hp' hck hcn]
        rfl

theorem xmlOk_iff (s : List Char) : xmlOk s = true ↔ ∃ toks, Tokenizes s toks ∧ Element [] toks :=
  ⟨xmlOk_sound s, fun ⟨toks, ht, he⟩ => xmlOk_complete s toks ht he⟩

theorem xmlOk_balanced (s : List Char) (h : xmlOk s = true) :
    ∃ toks, Tokenizes s toks ∧ countKind .opening toks = countKind .closing toks := by
  obtain ⟨toks, ht, he⟩ := xmlOk_sound s h
  exact ⟨toks, ht, he.content.balanced⟩

/-! non-vacuity: a document with a declared prefix, attributes, text and an empty element -/

example : ∃ toks, Tokenizes "<a xmlns:p=\"u\"><p:b x=\"1\" y=\"2\"/>t<c></c></a>".toList toks ∧ Element [] toks := by
  rw [String.toList_ofList]
  exact (xmlOk_iff _).1 (by decide +kernel)

end IslaVerif.Formats
