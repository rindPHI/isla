import IslaVerif.Proofs.Formats.Common
import IslaVerif.Proofs.Basics
/-
C21, simple TAR: `tarEntry` / `tarOk` of Model/Formats.lean against the field layout of one
216-character entry (NUL-padded names, octal checksum of the header with the checksum field blanked,
type flag, content marker) and `TarValid`: every block is an entry and every non-empty link target
names another entry.  `TarValid` and `blankChecksum` are trusted: they are what "valid" means in Properties/C21.lean.
-/
namespace IslaVerif.Formats

/-- the first 209 characters (the header) with the 8 checksum characters replaced by blanks; the `101` that
follow them are the type flag and the linked name (1 + 100) -/
def blankChecksum (e : List Char) : List Char :=
  e.take 100 ++ List.replicate 8 ' ' ++ (e.drop 108).take 101

/-- the `i`-th 216-character block -/
def tarBlock (s : List Char) (i : Nat) : List Char := (s.drop (216 * i)).take 216

/-- declarative validity of a simple TAR archive `s` with decoded entries `es` -/
structure TarValid (s : List Char) (es : List TarEntry) : Prop where
  nonempty : s ≠ []
  length : s.length = 216 * es.length
  /-- every 216-character block is an entry -/
  entry : ∀ i, (h : i < es.length) → tarEntry (tarBlock s i) = some es[i]
  /-- every link with a non-empty target points to the name of ANOTHER entry -/
  link : ∀ i, (h : i < es.length) → es[i].typeflag = '2' → es[i].linked ≠ [] →
    ∃ j, ∃ hj : j < es.length, j ≠ i ∧ es[j].name = es[i].linked

theorem nameField_eq_some_iff (f nm : List Char) :
    nameField f = some nm ↔ nul ∉ nm ∧ ∃ k, f = nm ++ List.replicate k nul := by
  have hf : nameField f =
      if (takeUntil (· == nul) f).2.all (· == nul) then some (takeUntil (· == nul) f).1 else none := rfl
  constructor
  · intro h
    rw [hf, Option.ite_none_right_eq_some, Option.some.injEq] at h
    obtain ⟨hall, rfl⟩ := h
    obtain ⟨happ, hnot, -⟩ := takeUntil_spec (· == nul) f
    have hnm : nul ∉ (takeUntil (· == nul) f).1 := fun hm => beq_eq_false_iff_ne.1 (hnot nul hm) rfl
    have hpad : ∀ x ∈ (takeUntil (· == nul) f).2, x = nul := fun x hx =>
      beq_iff_eq.1 (List.all_eq_true.1 hall x hx)
    refine ⟨hnm, (takeUntil (· == nul) f).2.length, ?_⟩
    rw [← List.eq_replicate_iff.2 ⟨rfl, hpad⟩, happ]
  · rintro ⟨hn, k, rfl⟩
    have hnm : ∀ c ∈ nm, (c == nul) = false := fun c hc => beq_eq_false_iff_ne.2 fun h => hn (h ▸ hc)
    have hpad : ∀ c ∈ List.replicate k nul, (c == nul) = true := fun c hc =>
      beq_iff_eq.2 (List.eq_of_mem_replicate hc)
    rw [hf, takeUntil_eq _ nm (List.replicate k nul) hnm fun c r h => hpad c (h ▸ List.mem_cons_self)]
    exact if_pos (List.all_eq_true.2 hpad)

theorem octVal_eq_some_iff (ds : List Char) (v : Nat) :
    octVal ds = some v ↔
      ds ≠ [] ∧ (∀ c ∈ ds, '0' ≤ c ∧ c ≤ '7') ∧ v = ds.foldl (fun a c => 8 * a + (c.toNat - 48)) 0 := by
  simp only [octVal, Option.ite_none_left_eq_some, Option.some.injEq, Bool.or_eq_true, List.isEmpty_iff,
    Bool.not_eq_true', not_or, Bool.not_eq_false, List.all_eq_true, Bool.and_eq_true, decide_eq_true_eq,
    and_assoc, eq_comm (a := v)]

theorem blankChecksum_length (e : List Char) (he : e.length = 216) : (blankChecksum e).length = 209 := by
  simp only [blankChecksum, List.length_append, List.length_take, List.length_replicate, List.length_drop, he]
  rfl

theorem blankChecksum_getElem? (e : List Char) (he : e.length = 216) (i : Nat) (hi : i < 209) :
    (blankChecksum e)[i]? = if 100 ≤ i ∧ i < 108 then some ' ' else e[i]? := by
  have h1 : (e.take 100).length = 100 := by rw [List.length_take, he]; rfl
  have h2 : (e.take 100 ++ List.replicate 8 ' ').length = 108 := by
    rw [List.length_append, h1, List.length_replicate]
  unfold blankChecksum
  by_cases hlo : i < 100
  · -- in the name field
    rw [if_neg (fun h => Nat.not_lt.2 h.1 hlo), List.append_assoc,
      List.getElem?_append_left (by rw [h1]; exact hlo), List.getElem?_take_of_lt hlo]
  · have hlo := Nat.le_of_not_lt hlo
    by_cases hmid : i < 108
    · -- among the eight blanks
      rw [if_pos ⟨hlo, hmid⟩, List.getElem?_append_left (by rw [h2]; exact hmid),
        List.getElem?_append_right (by rw [h1]; exact hlo), h1, List.getElem?_replicate,
        if_pos (Nat.sub_lt_left_of_lt_add hlo hmid)]
    · -- behind them, at position `i - 108` of the 101 characters from 108 on
      have hhi := Nat.le_of_not_lt hmid
      rw [if_neg (fun h => hmid h.2), List.getElem?_append_right (by rw [h2]; exact hhi), h2,
        List.getElem?_take_of_lt (Nat.sub_lt_left_of_lt_add hhi hi), List.getElem?_drop, Nat.add_sub_cancel' hhi]

/-- the left side is `blanked` in `tarEntry` -/
theorem blankChecksum_eq (e : List Char) (he : e.length = 216) :
    e.take 100 ++ List.replicate 8 ' ' ++ [(e.drop 108).headD ' '] ++ (e.drop 109).take 100 =
      blankChecksum e := by
  rw [blankChecksum, List.append_assoc _ [_] _, List.drop_eq_getElem_cons (i := 108) (by rw [he]; decide)]
  rfl

/-- the test of the `if` in `tarEntry`, conjunct by conjunct -/
theorem tarEntry_test_iff {nm hdr term cont : List Char} {v sum : Nat} {tf : Char} :
    (!nm.isEmpty && hdr.length == 209 && term == [nul, ' '] && v == sum && (tf == '0' || tf == '2') &&
        cont == "CONTENT".toList) = true ↔
      nm ≠ [] ∧ hdr.length = 209 ∧ term = [nul, ' '] ∧ v = sum ∧ (tf = '0' ∨ tf = '2') ∧
        cont = "CONTENT".toList := by
  simp only [Bool.and_eq_true, and_assoc, Bool.not_eq_eq_eq_not, Bool.not_true, List.isEmpty_eq_false_iff,
    ne_eq, beq_iff_eq, Bool.or_eq_true]

theorem tarEntry_eq_some_iff (e : List Char) (r : TarEntry) :
    tarEntry e = some r ↔
      e.length = 216 ∧
      nameField (e.take 100) = some r.name ∧ r.name ≠ [] ∧
      nameField ((e.drop 109).take 100) = some r.linked ∧
      (e.drop 108).headD ' ' = r.typeflag ∧
      octVal ((e.drop 100).take 6) = some ((blankChecksum e).map Char.toNat).sum ∧
      (e.drop 106).take 2 = [nul, ' '] ∧
      (r.typeflag = '0' ∨ r.typeflag = '2') ∧
      e.drop 209 = "CONTENT".toList := by
  unfold tarEntry
  by_cases hl : e.length = 216
  · have e1 : ((e.drop 100).take 8).take 6 = (e.drop 100).take 6 := by rw [List.take_take]; rfl
    have e2 : ((e.drop 100).take 8).drop 6 = (e.drop 106).take 2 := by rw [List.drop_take, List.drop_drop]
    rw [if_neg (by simp [hl])]
    dsimp only
    rw [blankChecksum_eq e hl, ← List.sum_eq_foldl, e1, e2]
    obtain ⟨name, tf, linked⟩ := r
    constructor
    · intro h
      split at h
      · next nm ln v h1 h2 h3 =>
        rw [Option.ite_none_right_eq_some, tarEntry_test_iff] at h
        obtain ⟨⟨hname, -, hterm, hsum, htf, hcont⟩, h⟩ := h
        cases h
        exact ⟨hl, h1, hname, h2, rfl, hsum ▸ h3, hterm, htf, hcont⟩
      · cases h
    · rintro ⟨-, h1, hname, h2, rfl, h3, hterm, htf, hcont⟩
      have hhdr : (e.take 209).length = 209 := by rw [List.length_take, hl]; rfl
      rw [h1, h2, h3]
      exact if_pos (tarEntry_test_iff.2 ⟨hname, hhdr, hterm, rfl, htf, hcont⟩)
  · rw [if_pos (bne_iff_ne.2 hl)]
    exact ⟨nofun, fun h => absurd h.1 hl⟩

/-- what an accepted entry looks like, position by position: the forward direction of
`tarEntry_eq_some_iff` without the checker's own `nameField` and `headD` -/
theorem tarEntry_sound (e : List Char) (r : TarEntry) (h : tarEntry e = some r) :
    e.length = 216 ∧
    octVal ((e.drop 100).take 6) = some ((blankChecksum e).map Char.toNat).sum ∧
    e[106]? = some nul ∧ e[107]? = some ' ' ∧
    (e[108]? = some '0' ∨ e[108]? = some '2') ∧ e[108]? = some r.typeflag ∧
    e.drop 209 = "CONTENT".toList ∧
    r.name ≠ [] ∧ nul ∉ r.name ∧ (∃ k, e.take 100 = r.name ++ List.replicate k nul) ∧
    nul ∉ r.linked ∧ (∃ k, (e.drop 109).take 100 = r.linked ++ List.replicate k nul) := by
  obtain ⟨hl, h1, c1, h2, c2, h3, c3, c5, c6⟩ := (tarEntry_eq_some_iff e r).1 h
  have t108 : e[108]? = some r.typeflag := by
    rw [← c2, List.drop_eq_getElem_cons (i := 108) (by rw [hl]; decide), List.getElem?_eq_getElem]; rfl
  have term (i : Nat) : ((e.drop 106).take 2)[i]? = if i < 2 then e[106 + i]? else none := by
    rw [List.getElem?_take, List.getElem?_drop]
  rw [c3] at term
  rw [nameField_eq_some_iff] at h1 h2
  refine ⟨hl, h3, (term 0).symm, (term 1).symm, ?_, t108, c6, c1, h1.1, h1.2, h2.1, h2.2⟩
  rw [t108]
  exact c5.imp (congrArg some) (congrArg some)

theorem chunks_eq_map_range (n : Nat) (hn : 0 < n) : ∀ (k f : Nat) (s : List Char), s.length = n * k → k ≤ f →
    chunks n f s = (List.range k).map fun i => (s.drop (n * i)).take n := by
  intro k
  induction k with
  | zero =>
    intro f s hs _
    cases List.eq_nil_of_length_eq_zero hs
    cases f <;> rfl
  | succ k ih =>
    intro f s hs hf
    cases f with
    | zero => exact absurd hf (Nat.not_succ_le_zero k)
    | succ f =>
      obtain ⟨c, cs, rfl⟩ := List.exists_cons_of_length_pos (hs ▸ Nat.mul_pos hn (Nat.succ_pos k))
      have hd : ((c :: cs).drop n).length = n * k := by
        rw [List.length_drop, hs, Nat.mul_succ, Nat.add_sub_cancel]
      show (c :: cs).take n :: chunks n f ((c :: cs).drop n) = _
      rw [ih f _ hd (Nat.le_of_succ_le_succ hf), List.range_succ_eq_map, List.map_cons, List.map_map,
        Nat.mul_zero, List.drop_zero]
      congr 2
      funext i
      rw [Function.comp_apply, List.drop_drop, Nat.mul_succ, Nat.add_comm]

/-- for any `f`: with `tarEntry` written in, unifying this with the goal of `tarOk_iff` unfolds `tarEntry` -/
theorem map_chunks_tarBlock {β : Type} (f : List Char → β) (s : List Char) (k : Nat) (h : s.length = 216 * k) :
    (chunks 216 (k + 1) s).map f = (List.range k).map fun i => f (tarBlock s i) := by
  rw [chunks_eq_map_range 216 (by decide) k _ s h (Nat.le_succ k), List.map_map]
  rfl

theorem TarValid.div {s es} (h : TarValid s es) : s.length / 216 = es.length := by
  rw [h.length]
  exact Nat.mul_div_cancel_left _ (by decide)

theorem TarValid.mod {s es} (h : TarValid s es) : s.length % 216 = 0 := by
  rw [h.length]
  exact Nat.mul_mod_right _ _

theorem map_range_eq_map_iff {α β : Type} {f : Nat → β} {g : α → β} {k : Nat} {xs : List α} :
    (List.range k).map f = xs.map g ↔ xs.length = k ∧ ∀ i, (h : i < xs.length) → f i = g xs[i] := by
  rw [List.ext_getElem_iff]
  simp only [List.length_map, List.length_range, List.getElem_map, List.getElem_range]
  constructor
  · rintro ⟨rfl, h⟩
    exact ⟨rfl, fun i hi => h i hi hi⟩
  · rintro ⟨rfl, h⟩
    exact ⟨rfl, fun i hi _ => h i hi⟩

/-- The left side is the last conjunct of `tarOk` with `es` for its `entries`, written out as it stands
there so that it unifies with what `unfold tarOk` leaves in `tarOk_iff`. -/
theorem tarLinks_iff (es : List TarEntry) :
    ((List.range es.length).all fun i =>
      match es[i]? with
      | some e => e.typeflag != '2' || e.linked.isEmpty || (List.range es.length).any fun j =>
          j != i && (match es[j]? with | some e' => e'.name == e.linked | none => false)
      | none => true) = true ↔
    ∀ i, (h : i < es.length) → es[i].typeflag = '2' → es[i].linked ≠ [] →
      ∃ j, ∃ hj : j < es.length, j ≠ i ∧ es[j].name = es[i].linked := by
  refine List.all_eq_true.trans (forall_congr' fun i => ?_)
  rw [List.mem_range]
  refine forall_congr' fun hi => ?_
  rw [List.getElem?_eq_getElem hi]
  dsimp only
  rw [Bool.or_eq_true, Bool.or_eq_true, bne_iff_ne, List.isEmpty_iff, List.any_eq_true]
  constructor
  · intro h ht hl
    obtain ⟨j, hj, h⟩ := h.resolve_left (not_or.2 ⟨fun hn => hn ht, hl⟩)
    have hj := List.mem_range.1 hj
    rw [List.getElem?_eq_getElem hj] at h
    exact ⟨j, hj, (Bool.and_eq_true_iff.1 h).imp bne_iff_ne.1 beq_iff_eq.1⟩
  · intro h
    by_cases ht : es[i].typeflag = '2'
    · by_cases hl : es[i].linked = []
      · exact .inl (.inr hl)
      · obtain ⟨j, hj, h⟩ := h ht hl
        refine .inr ⟨j, List.mem_range.2 hj, ?_⟩
        rw [List.getElem?_eq_getElem hj]
        exact Bool.and_eq_true_iff.2 (h.imp bne_iff_ne.2 beq_iff_eq.2)
    · exact .inl (.inl ht)

theorem tarOk_iff (s : List Char) : tarOk s = true ↔ ∃ es, TarValid s es := by
  unfold tarOk
  constructor
  · intro h
    split at h
    · cases h
    · next hg =>
      rw [Bool.or_eq_true, List.isEmpty_iff, bne_iff_ne, not_or, Decidable.not_not] at hg
      obtain ⟨hne, hm⟩ := hg
      have hlen : s.length = 216 * (s.length / 216) := (Nat.mul_div_cancel' (Nat.dvd_of_mod_eq_zero hm)).symm
      rw [map_chunks_tarBlock _ s _ hlen, Bool.and_eq_true] at h
      obtain ⟨hall, hlink⟩ := h
      -- every block is an entry (`hall`), so the blocks are `some` of what `filterMap id` collects
      have hmap : (List.range (s.length / 216)).map (fun i => tarEntry (tarBlock s i)) =
          (((List.range (s.length / 216)).map fun i => tarEntry (tarBlock s i)).filterMap id).map some :=
        (List.map_id _).symm.trans
          (IslaVerif.List.map_eq_map_some_filterMap (f := id) (List.all_eq_true.1 hall))
      generalize List.filterMap id _ = es at hmap hlink
      obtain ⟨hl, he⟩ := map_range_eq_map_iff.1 hmap
      exact ⟨es, hne, hl ▸ hlen, he, (tarLinks_iff es).1 hlink⟩
  · rintro ⟨es, h⟩
    have hf : (es.map some).filterMap id = es := by rw [List.filterMap_map]; exact List.filterMap_some
    rw [if_neg (by simp [h.nonempty, h.mod]), h.div, map_chunks_tarBlock _ s _ h.length,
      map_range_eq_map_iff.2 ⟨rfl, h.entry⟩]
    dsimp only
    rw [hf, Bool.and_eq_true]
    exact ⟨by simp, (tarLinks_iff es).2 h.link⟩

/-- the `→` half of `tarOk_iff` without the link clause, about the text alone (no `TarValid`, no `tarBlock`) -/
theorem tarOk_sound (s : List Char) (h : tarOk s = true) :
    s.length % 216 = 0 ∧ s ≠ [] ∧
      ∀ i, i < s.length / 216 → ∃ e, tarEntry ((s.drop (216 * i)).take 216) = some e := by
  obtain ⟨es, h⟩ := (tarOk_iff s).1 h
  exact ⟨h.mod, h.nonempty, fun i hi => ⟨_, h.entry i (h.div ▸ hi)⟩⟩

/-! non-vacuity: a two-entry archive, file `a` and a link `b` to it -/

example : ∃ es, TarValid
    (('a' :: List.replicate 99 nul ++ "000621".toList ++ [nul, ' ', '0'] ++ List.replicate 100 nul ++
        "CONTENT".toList) ++
      ('b' :: List.replicate 99 nul ++ "000765".toList ++ [nul, ' ', '2'] ++
        ('a' :: List.replicate 99 nul) ++ "CONTENT".toList)) es :=
  (tarOk_iff _).1 (by decide +kernel)

example : ∃ r, tarEntry ('a' :: List.replicate 99 nul ++ "000621".toList ++ [nul, ' ', '0'] ++
    List.replicate 100 nul ++ "CONTENT".toList) = some r :=
  Option.isSome_iff_exists.1 (by decide +kernel)

end IslaVerif.Formats
