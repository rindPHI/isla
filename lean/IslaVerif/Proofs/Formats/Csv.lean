import IslaVerif.Model.Formats
/-
C21, CSV: `csvScan` / `csvOk` of Model/Formats.lean against records made of plain and quoted pieces
(`Seg`, `renderRecords`): the scanner yields one more than the number of separators outside quotes per
terminated record, and the checker accepts iff that number is the same for all records.  The
specification (`Plain`, `Seg.Ok`, `recordSeps`) is trusted: it is what "valid" means in Properties/C21.lean.
-/
namespace IslaVerif.Formats

/-- text of one record without quotes and line feeds -/
def Plain (l : List Char) : Prop := ∀ c ∈ l, c ≠ '"' ∧ c ≠ '\n'

/-- the lines, each terminated by a line feed -/
def joinLines (ls : List (List Char)) : List Char := ls.flatMap (· ++ ['\n'])

/-- a piece of a record: text without quotes and line feeds, or a quoted string -/
inductive Seg where
  | plain (l : List Char)
  | quoted (q : List Char)

def Seg.render : Seg → List Char
  | .plain l => l
  | .quoted q => '"' :: q ++ ['"']

/-- plain pieces contain neither `"` nor a line feed, quoted strings contain no `"` -/
def Seg.Ok : Seg → Prop
  | .plain l => Plain l
  | .quoted q => ∀ c ∈ q, c ≠ '"'

/-- separators that count: those outside quotes -/
def Seg.seps : Seg → Nat
  | .plain l => l.count ';'
  | .quoted _ => 0

def renderRecord (segs : List Seg) : List Char := segs.flatMap Seg.render

/-- records, each terminated by a line feed -/
def renderRecords (rs : List (List Seg)) : List Char := rs.flatMap fun segs => renderRecord segs ++ ['\n']

def recordSeps (segs : List Seg) : Nat := (segs.map Seg.seps).sum

theorem joinLines_nil : joinLines [] = [] := rfl
theorem joinLines_cons (l : List Char) (ls : List (List Char)) :
    joinLines (l :: ls) = l ++ '\n' :: joinLines ls := by
  simp [joinLines]

theorem renderRecord_cons (g : Seg) (gs : List Seg) : renderRecord (g :: gs) = g.render ++ renderRecord gs := rfl

theorem recordSeps_cons (g : Seg) (gs : List Seg) : recordSeps (g :: gs) = g.seps + recordSeps gs := rfl

theorem renderRecords_cons (r : List Seg) (rs : List (List Seg)) :
    renderRecords (r :: rs) = renderRecord r ++ '\n' :: renderRecords rs := by
  simp [renderRecords]

theorem csvScan_plain_char {c : Char} (h1 : c ≠ '"') (h2 : c ≠ '\n') (cs : List Char) (n : Nat) (acc : List Nat) :
    csvScan (c :: cs) false n acc = csvScan cs false (n + if c == ';' then 1 else 0) acc := by
  rw [csvScan, if_neg (mt beq_iff_eq.1 h1), if_neg Bool.false_ne_true, if_neg (mt beq_iff_eq.1 h2)]
  cases c == ';' <;> rfl

theorem csvScan_plain_seg (l : List Char) (n : Nat) (acc : List Nat) (rest : List Char) (hq : Plain l) :
    csvScan (l ++ rest) false n acc = csvScan rest false (n + l.count ';') acc := by
  induction l generalizing n with
  | nil => rfl
  | cons c cs ih =>
    obtain ⟨⟨h1, h2⟩, hcs⟩ := List.forall_mem_cons.1 hq
    rw [List.cons_append, csvScan_plain_char h1 h2, ih _ hcs, List.count_cons, Nat.add_assoc,
      Nat.add_comm (List.count ';' cs)]

theorem csvScan_newline (rest : List Char) (n : Nat) (acc : List Nat) :
    csvScan ('\n' :: rest) false n acc = csvScan rest false 1 (n :: acc) := rfl

theorem csvScan_inQuote (q rest : List Char) (n : Nat) (acc : List Nat) (hq : ∀ c ∈ q, c ≠ '"') :
    csvScan (q ++ '"' :: rest) true n acc = csvScan rest false n acc := by
  induction q with
  | nil => rfl
  | cons c cs ih =>
    obtain ⟨h1, hcs⟩ := List.forall_mem_cons.1 hq
    rw [List.cons_append, csvScan, if_neg (mt beq_iff_eq.1 h1), if_pos rfl, ih hcs]

theorem csvScan_quoted (q rest : List Char) (n : Nat) (acc : List Nat) (hq : ∀ c ∈ q, c ≠ '"') :
    csvScan ('"' :: q ++ '"' :: rest) false n acc = csvScan rest false n acc :=
  -- reading the opening quote is one step of `csvScan`, by computation
  csvScan_inQuote q rest n acc hq

theorem csvScan_seg (g : Seg) (hg : g.Ok) (rest : List Char) (n : Nat) (acc : List Nat) :
    csvScan (g.render ++ rest) false n acc = csvScan rest false (n + g.seps) acc := by
  cases g with
  | plain l => exact csvScan_plain_seg l n acc rest hg
  | quoted q =>
    rw [Seg.render, List.append_assoc, List.singleton_append]
    exact csvScan_quoted q rest n acc hg

theorem csvScan_record {segs : List Seg} (hok : ∀ g ∈ segs, g.Ok) (rest : List Char) (n : Nat) (acc : List Nat) :
    csvScan (renderRecord segs ++ rest) false n acc = csvScan rest false (n + recordSeps segs) acc := by
  induction segs generalizing n with
  | nil => rfl
  | cons g gs ih =>
    obtain ⟨hg, hgs⟩ := List.forall_mem_cons.1 hok
    rw [renderRecord_cons, List.append_assoc, csvScan_seg g hg, ih hgs, recordSeps_cons, Nat.add_assoc]

theorem csvScan_records_append (rs : List (List Seg)) (hok : ∀ r ∈ rs, ∀ g ∈ r, g.Ok) (acc : List Nat)
    (rest : List Char) :
    csvScan (renderRecords rs ++ rest) false 1 acc
      = csvScan rest false 1 ((rs.map fun r => 1 + recordSeps r).reverse ++ acc) := by
  induction rs generalizing acc with
  | nil => rfl
  | cons r rs ih =>
    obtain ⟨hr, hrs⟩ := List.forall_mem_cons.1 hok
    rw [renderRecords_cons, List.append_assoc, csvScan_record hr, List.cons_append, csvScan_newline,
      ih hrs, List.map_cons, List.reverse_cons, List.append_assoc, List.singleton_append]

/-- Every text whose quotes are closed has this form: terminated records, then pieces without a
line feed outside quotes.  The scanner counts the terminated records only: a last record without
its line feed is dropped. -/
theorem csvScan_records_tail (rs : List (List Seg)) (tail : List Seg) (hok : ∀ r ∈ rs, ∀ g ∈ r, g.Ok)
    (htail : ∀ g ∈ tail, g.Ok) :
    csvScan (renderRecords rs ++ renderRecord tail) false 1 [] = rs.map fun r => 1 + recordSeps r := by
  rw [csvScan_records_append rs hok, ← List.append_nil (renderRecord tail), csvScan_record htail,
    csvScan, List.append_nil, List.reverse_reverse]

theorem csvScan_records (rs : List (List Seg)) (hok : ∀ r ∈ rs, ∀ g ∈ r, g.Ok) :
    csvScan (renderRecords rs) false 1 [] = rs.map fun r => 1 + recordSeps r := by
  rw [← List.append_nil (renderRecords rs)]
  exact csvScan_records_tail rs [] hok (fun _ h => nomatch h)

/-- `xs` are the lines, or the records -/
theorem csvOk_iff_of_scan {α : Type} {s : List Char} {xs : List α} {f : α → Nat}
    (h : csvScan s false 1 [] = xs.map fun x => 1 + f x) (hne : xs ≠ []) :
    csvOk s = true ↔ ∃ k, ∀ x ∈ xs, f x = k := by
  cases xs with
  | nil => exact absurd rfl hne
  | cons x₀ xs =>
    simp only [csvOk, h, List.map_cons, List.all_eq_true, List.mem_map, beq_iff_eq]
    constructor
    · intro h
      refine ⟨f x₀, fun x hx => ?_⟩
      rcases List.mem_cons.1 hx with rfl | hx
      · rfl
      · exact Nat.add_left_cancel (h _ ⟨x, hx, rfl⟩)
    · rintro ⟨k, hk⟩ _ ⟨x, hx, rfl⟩
      rw [hk x (List.mem_cons_of_mem _ hx), hk x₀ List.mem_cons_self]

theorem csvOk_records_tail (rs : List (List Seg)) (tail : List Seg) (hne : rs ≠ [])
    (hok : ∀ r ∈ rs, ∀ g ∈ r, g.Ok) (htail : ∀ g ∈ tail, g.Ok) :
    csvOk (renderRecords rs ++ renderRecord tail) = true ↔ ∃ k, ∀ r ∈ rs, recordSeps r = k :=
  csvOk_iff_of_scan (csvScan_records_tail rs tail hok htail) hne

theorem csvOk_records (rs : List (List Seg)) (hne : rs ≠ []) (hok : ∀ r ∈ rs, ∀ g ∈ r, g.Ok) :
    csvOk (renderRecords rs) = true ↔ ∃ k, ∀ r ∈ rs, recordSeps r = k := by
  rw [← List.append_nil (renderRecords rs)]
  exact csvOk_records_tail rs [] hne hok (fun _ h => nomatch h)

theorem joinLines_eq_renderRecords (ls : List (List Char)) :
    joinLines ls = renderRecords (ls.map fun l => [.plain l]) := by
  simp [joinLines, renderRecords, renderRecord, Seg.render, List.flatMap_map]

theorem csvScan_plain (ls : List (List Char)) (hq : ∀ l ∈ ls, Plain l) :
    csvScan (joinLines ls) false 1 [] = ls.map fun l => 1 + l.count ';' := by
  have hok : ∀ r ∈ ls.map fun l => [Seg.plain l], ∀ g ∈ r, g.Ok :=
    List.forall_mem_map.2 fun l hl => List.forall_mem_singleton.2 (hq l hl)
  rw [joinLines_eq_renderRecords, csvScan_records _ hok, List.map_map]
  rfl

/-- this, not `csvOk_plain` below, is the statement of `C21.csvOk_plain` -/
theorem csvOk_plain' (ls : List (List Char)) (hne : ls ≠ []) (hq : ∀ l ∈ ls, Plain l) :
    csvOk (joinLines ls) = true ↔ ∃ k, ∀ l ∈ ls, l.count ';' = k :=
  csvOk_iff_of_scan (csvScan_plain ls hq) hne

theorem csvOk_plain (l₀ : List Char) (ls : List (List Char)) (hq : ∀ l ∈ l₀ :: ls, Plain l) :
    csvOk (joinLines (l₀ :: ls)) = true ↔ ∀ l ∈ ls, l.count ';' = l₀.count ';' := by
  rw [csvOk_plain' _ (List.cons_ne_nil _ _) hq]
  constructor
  · rintro ⟨k, hk⟩ l hl
    rw [hk l (List.mem_cons_of_mem _ hl), hk l₀ List.mem_cons_self]
  · intro h
    exact ⟨l₀.count ';', List.forall_mem_cons.2 ⟨rfl, h⟩⟩

theorem csvOk_nil : csvOk [] = false := rfl

/-! non-vacuity. `rw [String.toList_ofList]` turns `"…".toList` into the list of the literal's characters first:
left to itself the kernel evaluates `String.toList` on a literal by decoding its UTF-8 byte array. -/

example : ∀ l ∈ ["a;b".toList, "c;d".toList, ";".toList], Plain l := by
  repeat rw [String.toList_ofList]
  simp only [Plain]
  decide +kernel
example : csvOk (joinLines ["a;b".toList, "c;d".toList, ";".toList]) = true := by
  repeat rw [String.toList_ofList]
  refine (csvOk_plain' _ (by simp) ?_).2 ⟨1, by decide +kernel⟩
  simp only [Plain]
  decide +kernel
example : csvScan "\"x;\ny\"a;b\n".toList false 1 [] = csvScan "a;b\n".toList false 1 [] := by
  repeat rw [String.toList_ofList]
  exact csvScan_quoted ['x', ';', '\n', 'y'] _ 1 [] (by decide +kernel)

example : csvOk (renderRecords [[.plain "a;".toList, .quoted "b;c\n".toList], [.plain "d;e".toList]]) = true := by
  repeat rw [String.toList_ofList]
  refine (csvOk_records _ (by simp) ?_).2 ⟨1, by decide +kernel⟩
  simp only [List.forall_mem_cons, List.not_mem_nil, false_implies, implies_true, and_true, Seg.Ok, Plain]
  decide +kernel

end IslaVerif.Formats
