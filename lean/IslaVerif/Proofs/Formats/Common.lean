import IslaVerif.Model.Formats
/-
`takeUntil`, the lexer of the XML tag parser and of the TAR name fields, splits its input before the first
character satisfying `stop`, and no other split is of that kind; `noDup` (XML attribute names, reST link
targets) is `List.Nodup`.
-/
namespace IslaVerif.Formats

theorem takeUntil_spec (stop : Char → Bool) (s : List Char) :
    (takeUntil stop s).1 ++ (takeUntil stop s).2 = s ∧ (∀ c ∈ (takeUntil stop s).1, stop c = false) ∧
      ∀ c r, (takeUntil stop s).2 = c :: r → stop c = true := by
  induction s with
  | nil => exact ⟨rfl, fun _ h => absurd h List.not_mem_nil, fun _ _ h => nomatch h⟩
  | cons d ds ih =>
    rw [takeUntil]
    by_cases hd : stop d = true
    · rw [if_pos hd]
      exact ⟨rfl, fun _ h => absurd h List.not_mem_nil, fun c r h => (List.cons.inj h).1 ▸ hd⟩
    · rw [if_neg hd]
      obtain ⟨h1, h2, h3⟩ := ih
      exact ⟨congrArg (d :: ·) h1, List.forall_mem_cons.2 ⟨Bool.eq_false_iff.2 hd, h2⟩, h3⟩

theorem takeUntil_snd_head (stop : Char → Bool) (s : List Char) (c : Char) (r : List Char)
    (h : (takeUntil stop s).2 = c :: r) : stop c = true :=
  (takeUntil_spec stop s).2.2 c r h

theorem takeUntil_length (stop : Char → Bool) (s : List Char) : (takeUntil stop s).2.length ≤ s.length := by
  have h := congrArg List.length (takeUntil_spec stop s).1
  rw [List.length_append] at h
  omega

theorem takeUntil_eq (stop : Char → Bool) (a b : List Char) (ha : ∀ c ∈ a, stop c = false)
    (hb : ∀ c r, b = c :: r → stop c = true) : takeUntil stop (a ++ b) = (a, b) := by
  induction a with
  | nil =>
    cases b with
    | nil => rfl
    | cons c r => exact if_pos (hb c r rfl)
  | cons x xs ih =>
    rw [List.cons_append, takeUntil, if_neg (Bool.eq_false_iff.1 (ha x List.mem_cons_self)),
      ih fun c hc => ha c (List.mem_cons_of_mem x hc)]

theorem noDup_iff (l : List (List Char)) : noDup l = true ↔ l.Nodup := by
  induction l with
  | nil => simp [noDup]
  | cons x xs ih => simp [noDup, ih]

end IslaVerif.Formats
