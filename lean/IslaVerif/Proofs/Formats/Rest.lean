import IslaVerif.Proofs.Formats.Common
import IslaVerif.Proofs.Tree
/-
The reST checkers work on the derivation tree: each is a condition on the nodes that carry a given label
(`nodesOf`: the subtrees reachable by a path) and on their yields.
-/
namespace IslaVerif.Formats

theorem mem_nodesOf_iff (t : DTree) (sym : String) (n : DTree) :
    n ∈ nodesOf t sym ↔ ∃ p, t.get p = some n ∧ n.sym = sym := by
  simp only [nodesOf, List.mem_map, List.mem_filter, beq_iff_eq, Prod.exists]
  constructor
  · rintro ⟨p, x, ⟨hm, hs⟩, rfl⟩
    exact ⟨p, (DTree.mem_paths_iff t p x).1 hm, hs⟩
  · rintro ⟨p, hg, hs⟩
    exact ⟨p, n, ⟨(DTree.mem_paths_iff t p n).2 hg, hs⟩, rfl⟩

theorem restUnderlineOk_iff (g : Grammar) (t : DTree) :
    restUnderlineOk g t = true ↔
      ∀ n ∈ nodesOf t "<section-title>", ∃ ti sep ul, n.kids = [ti, sep, ul] ∧
        0 < (ti.yieldC g).length ∧ (ti.yieldC g).length ≤ (ul.yieldC g).length := by
  unfold restUnderlineOk
  rw [List.all_eq_true]
  refine forall_congr' fun n => forall_congr' fun _ => ?_
  split
  · next ti sep ul h =>
    rw [h, Bool.and_eq_true, decide_eq_true_eq, decide_eq_true_eq]
    refine ⟨fun hh => ⟨ti, sep, ul, rfl, hh⟩, ?_⟩
    rintro ⟨_, _, _, e, hh⟩
    cases e
    exact hh
  · next hne =>
    refine ⟨nofun, ?_⟩
    rintro ⟨ti, sep, ul, h, -⟩
    exact (hne ti sep ul h).elim

theorem mem_idsBelow_iff (g : Grammar) (t : DTree) (sym : String) (s : List Char) :
    s ∈ idsBelow g t sym ↔ ∃ n ∈ nodesOf t sym, ∃ i ∈ nodesOf n "<id>", i.yieldC g = s := by
  simp only [idsBelow, List.mem_flatMap, List.mem_map]

theorem restLabelsUnique_iff (g : Grammar) (t : DTree) :
    restLabelsUnique g t = true ↔ (idsBelow g t "<label>").Nodup := by
  simp only [restLabelsUnique, noDup_iff]

theorem restRefsDefined_iff (g : Grammar) (t : DTree) :
    restRefsDefined g t = true ↔
      ∀ s, (s ∈ idsBelow g t "<internal_reference>" ∨ s ∈ idsBelow g t "<internal_reference_nospace>") →
        s ∈ idsBelow g t "<label>" := by
  simp only [restRefsDefined, List.all_eq_true, List.mem_append, List.contains_iff_mem]

theorem consecutiveFrom_some {l : List (Option Nat)} (h : consecutiveFrom l = true) :
    ∃ ns : List Nat, l = ns.map some := by
  fun_induction consecutiveFrom l with
  | case1 => exact ⟨[], rfl⟩
  | case2 a => exact ⟨[a], rfl⟩
  | case3 a b rest ih =>
    obtain ⟨ns, hns⟩ := ih (by simp only [Bool.and_eq_true] at h; exact h.2)
    exact ⟨a :: ns, by rw [List.map_cons, ← hns]⟩
  | case4 => simp at h

theorem consecutiveFrom_map_some (ns : List Nat) :
    consecutiveFrom (ns.map some) = true ↔
      ∀ i, (h : i + 1 < ns.length) →
        0 < ns[i]'(Nat.lt_of_succ_lt h) ∧ ns[i + 1] = ns[i]'(Nat.lt_of_succ_lt h) + 1 := by
  induction ns with
  | nil => exact ⟨fun _ i hi => absurd hi (Nat.not_lt_zero _), fun _ => rfl⟩
  | cons a t ih =>
    cases t with
    | nil => exact ⟨fun _ i hi => absurd (Nat.lt_of_succ_lt_succ hi) (Nat.not_lt_zero _), fun _ => rfl⟩
    | cons b rest =>
      show (decide (0 < a) && b == a + 1 && consecutiveFrom ((b :: rest).map some)) = true ↔ _
      rw [Bool.and_eq_true, Bool.and_eq_true, decide_eq_true_eq, beq_iff_eq, ih]
      constructor
      · rintro ⟨hab, h⟩ i hi
        cases i with
        | zero => exact hab
        | succ j => exact h j (Nat.lt_of_succ_lt_succ hi)
      · intro h
        exact ⟨h 0 (Nat.succ_lt_succ (Nat.succ_pos _)), fun i hi => h (i + 1) (Nat.succ_lt_succ hi)⟩

theorem consecutiveFrom_iff (l : List (Option Nat)) :
    consecutiveFrom l = true ↔
      ∃ ns : List Nat, l = ns.map some ∧
        ∀ i, (h : i + 1 < ns.length) → 0 < ns[i] ∧ ns[i + 1] = ns[i] + 1 := by
  constructor
  · intro h
    obtain ⟨ns, rfl⟩ := consecutiveFrom_some h
    exact ⟨ns, rfl, (consecutiveFrom_map_some ns).1 h⟩
  · rintro ⟨ns, rfl, h⟩
    exact (consecutiveFrom_map_some ns).2 h

theorem restNumberingOk_iff (g : Grammar) (t : DTree) :
    restNumberingOk g t = true ↔
      ∀ e ∈ nodesOf t "<enumeration>", ∃ ns : List Nat, enumNumbers g e = ns.map some ∧
        ∀ i, (h : i + 1 < ns.length) → 0 < ns[i] ∧ ns[i + 1] = ns[i] + 1 := by
  simp only [restNumberingOk, List.all_eq_true, consecutiveFrom_iff]

/-! non-vacuity: a grammar fragment, a section title "ab" underlined by "==" / by "=", a document with
two link targets and a reference, and the numbers 3, 4, 5 -/

def exG : Grammar :=
  [("<section-title>", [["<title-text>", "\n", "<underline>"]]), ("<title-text>", [["ab"]]),
   ("<underline>", [["=="], ["="]]), ("<doc>", [["<label>", "<label>", "<internal_reference>"]]),
   ("<label>", [["_", "<id>", ":"]]), ("<internal_reference>", [["<id>", "_"]]), ("<id>", [["x"], ["y"], ["z"]])]

def exTitle (ul : String) : DTree :=
  .node 0 "<section-title>" [.node 1 "<title-text>" [.node 2 "ab" []], .node 3 "\n" [],
    .node 4 "<underline>" [.node 5 ul []]]

def exId (i : Nat) (s : String) : DTree := .node i "<id>" [.node (i + 1) s []]

def exDoc (l₁ l₂ r : String) : DTree :=
  .node 0 "<doc>" [.node 1 "<label>" [.node 2 "_" [], exId 3 l₁, .node 5 ":" []],
    .node 6 "<label>" [.node 7 "_" [], exId 8 l₂, .node 10 ":" []],
    .node 11 "<internal_reference>" [exId 12 r, .node 14 "_" []]]

example : exId 8 "y" ∈ nodesOf (exDoc "x" "y" "x") "<id>" :=
  (mem_nodesOf_iff _ _ _).2 ⟨[1, 1], rfl, rfl⟩

example : restUnderlineOk exG (exTitle "==") = true ∧ restUnderlineOk exG (exTitle "=") = false := by
  decide +kernel

example : idsBelow exG (exDoc "x" "y" "x") "<label>" = ["x".toList, "y".toList] := by decide +kernel

example : restLabelsUnique exG (exDoc "x" "y" "x") = true ∧ restLabelsUnique exG (exDoc "x" "x" "x") = false := by
  decide +kernel

example : restRefsDefined exG (exDoc "x" "y" "y") = true ∧ restRefsDefined exG (exDoc "x" "y" "z") = false := by
  decide +kernel

example : ∀ s, (s ∈ idsBelow exG (exDoc "x" "y" "y") "<internal_reference>" ∨
      s ∈ idsBelow exG (exDoc "x" "y" "y") "<internal_reference_nospace>") →
    s ∈ idsBelow exG (exDoc "x" "y" "y") "<label>" :=
  (restRefsDefined_iff _ _).1 (by decide +kernel)

example : ∀ n ∈ nodesOf (exTitle "==") "<section-title>", ∃ ti sep ul, n.kids = [ti, sep, ul] ∧
    0 < (ti.yieldC exG).length ∧ (ti.yieldC exG).length ≤ (ul.yieldC exG).length :=
  (restUnderlineOk_iff _ _).1 (by decide +kernel)

example : ∃ ns : List Nat, [some 3, some 4, some 5] = ns.map some ∧
    ∀ i, (h : i + 1 < ns.length) → 0 < ns[i] ∧ ns[i + 1] = ns[i] + 1 :=
  (consecutiveFrom_iff _).1 (by decide +kernel)

end IslaVerif.Formats
