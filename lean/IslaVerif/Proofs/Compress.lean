import IslaVerif.Model.Intervals
import IslaVerif.Proofs.Regex
import IslaVerif.Proofs.Basics
/-
Compressing a run keeps its language. The elements of a run are `k`, `k*` or `k+` for one key `k` (`InRun`), so
its language is given by two numbers: `Fac L n u` is the set of concatenations of exactly `n` words of `L`, or of
at least `n` if `u` holds; concatenation adds the `n` and ors the `u` (`fac_cat`). A run has the numbers
`run_lang` says, and each `if` branch of `compressGroup` builds a list with the same two.
-/
namespace IslaVerif.C15
open IslaVerif.Re IslaVerif.Intervals

def Fac (L : List Char → Prop) (n : Nat) (u : Bool) : List Char → Prop :=
  Iter L fun k => n ≤ k ∧ (u = false → k = n)

def InRun (k e : Re) : Prop :=
  e = star k ∨ e = plus k ∨ (e = k ∧ isStar e = false ∧ isPlus e = false)

/-- `cleaned.filter (fun e => !isPlus e)` in the `any isPlus` branch of `Intervals.compressGroup` -/
def atomsOf (g : List Re) : List Re := (g.filter (fun e => !isStar e)).filter (fun e => !isPlus e)

/-- `cleaned.filter isPlus` in the `any isPlus` branch of `Intervals.compressGroup` -/
def plusOf (g : List Re) : List Re := (g.filter (fun e => !isStar e)).filter isPlus

theorem fac_add (a b : Nat) (ua ub : Bool) (k : Nat) :
    (∃ i j, k = i + j ∧ (a ≤ i ∧ (ua = false → i = a)) ∧ (b ≤ j ∧ (ub = false → j = b))) ↔
      a + b ≤ k ∧ ((ua || ub) = false → k = a + b) := by
  rw [Bool.or_eq_false_iff]
  constructor
  · rintro ⟨i, j, rfl, ⟨h1, e1⟩, h2, e2⟩
    exact ⟨Nat.add_le_add h1 h2, fun h => by rw [e1 h.1, e2 h.2]⟩
  · rintro ⟨h, e⟩
    obtain ⟨d, rfl⟩ := Nat.exists_eq_add_of_le h
    -- the side that may be longer takes the surplus `d`
    cases ub with
    | true => exact ⟨a, b + d, by omega, ⟨Nat.le_refl a, fun _ => rfl⟩, by omega, nofun⟩
    | false =>
      refine ⟨a + d, b, by omega, ⟨by omega, fun h => ?_⟩, Nat.le_refl b, fun _ => rfl⟩
      -- neither side may be longer, so there is no surplus
      have := e ⟨h, rfl⟩
      omega

theorem fac_cat (L : List Char → Prop) (a b : Nat) (ua ub : Bool) (w : List Char) :
    (∃ u v, w = u ++ v ∧ Fac L a ua u ∧ Fac L b ub v) ↔ Fac L (a + b) (ua || ub) w :=
  iter_cat.trans (iter_congr (fac_add a b ua ub) w)

theorem fac_congr {L : List Char → Prop} {n n' : Nat} {u u' : Bool} {w : List Char}
    (hn : n = n') (hu : u = u') : Fac L n u w ↔ Fac L n' u' w := by
  subst hn; subst hu; exact Iff.rfl

theorem lang_star_fac (k : Re) (w : List Char) : Lang (star k) w ↔ Fac (Lang k) 0 true w :=
  (lang_star_iter k w).trans (iter_congr (fun n => iff_of_true trivial ⟨n.zero_le, fun h => nomatch h⟩) w)

theorem lang_plus_fac (k : Re) (w : List Char) : Lang (plus k) w ↔ Fac (Lang k) 1 true w :=
  (lang_plus_iter k w).trans (iter_congr (fun _ => ⟨fun h => ⟨h, fun h => nomatch h⟩, fun h => h.1⟩) w)

theorem lang_atom_fac (k : Re) (w : List Char) : Lang k w ↔ Fac (Lang k) 1 false w := by
  unfold Fac Iter
  constructor
  · intro h; exact ⟨[w], by simp, by simp, by simpa using h⟩
  · rintro ⟨ws, ⟨_, e⟩, rfl, m⟩
    obtain ⟨x, rfl⟩ := List.length_eq_one_iff.1 (e rfl)
    simpa using m x (by simp)

/-- the count of the head is added on the right, so that a head which counts once gives a successor -/
theorem fac_cons {k e : Re} {n a : Nat} {u b : Bool} {l : List Re}
    (he : ∀ w, Lang e w ↔ Fac (Lang k) n u w) (hl : ∀ w, LangCat l w ↔ Fac (Lang k) a b w) (w : List Char) :
    LangCat (e :: l) w ↔ Fac (Lang k) (a + n) (u || b) w := by
  rw [Nat.add_comm, ← fac_cat]
  simp only [LangCat, he, hl]

theorem langCat_replicate (k : Re) (n : Nat) (w : List Char) :
    LangCat (List.replicate n k) w ↔ Fac (Lang k) n false w := by
  induction n generalizing w with
  | zero => simp [LangCat, Fac, Iter]
  | succ n ih => exact fac_cons (lang_atom_fac k) ih w

theorem langCat_replicate_plus (k : Re) (n : Nat) (w : List Char) :
    LangCat (List.replicate n k ++ [plus k]) w ↔ Fac (Lang k) (n + 1) true w := by
  have h := fac_cat (Lang k) n 1 false true w
  simp only [Bool.false_or] at h
  rw [langCat_append, ← h]
  simp only [langCat_replicate, langCat_single, lang_plus_fac]

theorem inRun_of_key (k e : Re) (h : groupKey e = k) : InRun k e := by
  subst h
  cases e
  case star => exact .inl rfl
  case plus => exact .inr (.inl rfl)
  all_goals exact .inr (.inr ⟨rfl, rfl, rfl⟩)

theorem isStar_of_isPlus (e : Re) (h : isPlus e = true) : isStar e = false := by
  cases e
  case star => cases h
  all_goals rfl

theorem unPlus_of_not_isPlus (e : Re) (h : isPlus e = false) : unPlus e = e := by
  cases e
  case plus => cases h
  all_goals rfl

theorem run_parts {k : Re} {g : List Re} (hg : ∀ e ∈ g, InRun k e) :
    (∀ e ∈ atomsOf g, e = k ∧ isPlus e = false) ∧ ∀ e ∈ plusOf g, e = plus k := by
  constructor
  · intro e he
    simp only [atomsOf, List.mem_filter] at he
    obtain ⟨⟨heg, hs⟩, hp⟩ := he
    rcases hg e heg with rfl | rfl | ⟨h, -, h'⟩
    · cases hs
    · cases hp
    · exact ⟨h, h'⟩
  · intro e he
    simp only [plusOf, List.mem_filter] at he
    obtain ⟨⟨heg, hs⟩, hp⟩ := he
    rcases hg e heg with rfl | rfl | ⟨-, -, h⟩
    · cases hs
    · rfl
    · rw [h] at hp
      cases hp

theorem run_lang (k : Re) (g : List Re) (hg : ∀ e ∈ g, InRun k e) (w : List Char) :
    LangCat g w ↔
      Fac (Lang k) ((atomsOf g).length + (plusOf g).length) (g.any isStar || g.any isPlus) w := by
  induction g generalizing w with
  | nil => exact langCat_replicate k 0 w
  | cons e g ih =>
    have ih' := ih (fun e he => hg e (List.mem_cons_of_mem _ he))
    -- on a star and on a plus the filters and `any` compute, so the counts agree by definition
    rcases hg e List.mem_cons_self with rfl | rfl | ⟨rfl, h1, h2⟩
    · exact (fac_cons (lang_star_fac k) ih' w).trans (fac_congr rfl rfl)
    · exact (fac_cons (lang_plus_fac k) ih' w).trans (fac_congr rfl (Bool.or_true _).symm)
    · refine (fac_cons (lang_atom_fac e) ih' w).trans (fac_congr ?_ ?_)
      · simp only [atomsOf, plusOf, List.filter_cons, h1, h2, Bool.not_false, if_true, Bool.false_eq_true,
          if_false, List.length_cons]
        omega
      · simp only [List.any_cons, h1, h2, Bool.false_or]

theorem dropLastMap_cons_cons (f : Re → Re) (x y : Re) (t : List Re) :
    dropLastMap f (x :: y :: t) = f x :: dropLastMap f (y :: t) := by
  simp [dropLastMap]

theorem mapLast_cons_cons (f : Re → Re) (x y : Re) (t : List Re) :
    mapLast f (x :: y :: t) = x :: mapLast f (y :: t) := by
  simp [mapLast]

theorem dropLastMap_append (f : Re → Re) (l₁ l₂ : List Re) (h : l₂ ≠ []) :
    dropLastMap f (l₁ ++ l₂) = l₁.map f ++ dropLastMap f l₂ := by
  induction l₁ with
  | nil => simp
  | cons x l ih =>
    cases hl : l ++ l₂ with
    | nil => simp at hl; exact absurd hl.2 h
    | cons y t =>
      rw [List.cons_append, hl, dropLastMap_cons_cons, ← hl, ih]
      simp

theorem dropLastMap_replicate (f : Re → Re) (x : Re) (n : Nat) :
    dropLastMap f (List.replicate (n + 1) x) = List.replicate n (f x) ++ [x] := by
  induction n with
  | zero => rfl
  | succ n ih =>
    rw [List.replicate_succ, List.replicate_succ, dropLastMap_cons_cons, ← List.replicate_succ, ih]
    rfl

theorem mapLast_replicate (f : Re → Re) (x : Re) (n : Nat) :
    mapLast f (List.replicate (n + 1) x) = List.replicate n x ++ [f x] := by
  induction n with
  | zero => rfl
  | succ n ih =>
    rw [List.replicate_succ, List.replicate_succ, mapLast_cons_cons, ← List.replicate_succ, ih]
    rfl

theorem dropLastMap_unPlus_replicate {k : Re} {a : Nat}
    (hk : (List.replicate a k).map unPlus = List.replicate a k) (p : Nat) :
    dropLastMap unPlus (List.replicate a k ++ List.replicate (p + 1) (plus k)) =
      List.replicate (a + p) k ++ [plus k] := by
  have hu : unPlus (plus k) = k := rfl
  rw [dropLastMap_append _ _ _ (List.ne_nil_of_length_pos (by simp)), hk, dropLastMap_replicate, hu,
    ← List.append_assoc, List.replicate_append_replicate]

/-- the third `match` arm of `Intervals.compressGroup` with its `if` branches, `sorted` written through
`atomsOf` and `plusOf` -/
theorem compressGroup_cons_cons (x y : Re) (t : List Re) :
    compressGroup (x :: y :: t) =
      if (x :: y :: t).all isStar then [x]
      else if (x :: y :: t).any isPlus then
        dropLastMap unPlus (atomsOf (x :: y :: t) ++ plusOf (x :: y :: t))
      else if (x :: y :: t).any isStar then
        mapLast plus ((x :: y :: t).filter (fun e => !isStar e))
      else x :: y :: t := rfl

/-- only stars: `|atoms| + |plus| = 0`, and any one of the stars says so -/
theorem langCat_single_of_all_star {k x : Re} {g : List Re} (hg : ∀ e ∈ g, InRun k e) (hx : x ∈ g)
    (h : g.all isStar = true) (w : List Char) : LangCat [x] w ↔ LangCat g w := by
  have hxs : isStar x = true := List.all_eq_true.1 h x hx
  have hxk : x = star k := by
    rcases hg x hx with h | h | ⟨_, h, _⟩
    · exact h
    · rw [h] at hxs; cases hxs
    · rw [h] at hxs; cases hxs
  have hf : g.filter (fun e => !isStar e) = [] :=
    List.filter_eq_nil_iff.2 fun e he => by rw [List.all_eq_true.1 h e he]; exact Bool.false_ne_true
  rw [run_lang k g hg, langCat_single, hxk, lang_star_fac]
  refine fac_congr ?_ ?_
  · rw [atomsOf, plusOf, hf]; rfl
  · rw [List.any_eq_true.2 ⟨x, hx, hxs⟩]; rfl

/-- every plus but the last becomes an atom: `(a + p) + 1 = a + (p + 1)` -/
theorem langCat_dropLastMap_unPlus {k : Re} {g : List Re} (hg : ∀ e ∈ g, InRun k e)
    (h : g.any isPlus = true) (w : List Char) :
    LangCat (dropLastMap unPlus (atomsOf g ++ plusOf g)) w ↔ LangCat g w := by
  obtain ⟨hA, hP⟩ := run_parts hg
  have mA : (atomsOf g).map unPlus = atomsOf g :=
    (List.map_congr_left fun e he => unPlus_of_not_isPlus e (hA e he).2).trans (List.map_id _)
  have hPne : plusOf g ≠ [] := by
    obtain ⟨e, he, hp⟩ := List.any_eq_true.1 h
    refine List.ne_nil_of_mem (List.mem_filter.2 ⟨List.mem_filter.2 ⟨he, ?_⟩, hp⟩)
    rw [isStar_of_isPlus e hp]; rfl
  obtain ⟨a, eA⟩ : ∃ a, atomsOf g = List.replicate a k :=
    ⟨_, List.eq_replicate_iff.2 ⟨rfl, fun e he => (hA e he).1⟩⟩
  obtain ⟨p, hp⟩ := Nat.exists_eq_add_one_of_ne_zero (mt List.length_eq_zero_iff.1 hPne)
  have eP : plusOf g = List.replicate (p + 1) (plus k) := List.eq_replicate_iff.2 ⟨hp, hP⟩
  rw [eA] at mA
  rw [run_lang k g hg, eA, eP, dropLastMap_unPlus_replicate mA, langCat_replicate_plus, List.length_replicate,
    List.length_replicate]
  exact fac_congr rfl (by rw [h, Bool.or_true])

/-- the last atom becomes a plus: `(|atoms| - 1) + 1 = |atoms| + 0` -/
theorem langCat_mapLast_plus {k : Re} {g : List Re} (hg : ∀ e ∈ g, InRun k e) (h1 : ¬ g.all isStar = true)
    (h2 : ¬ g.any isPlus = true) (h3 : g.any isStar = true) (w : List Char) :
    LangCat (mapLast plus (g.filter (fun e => !isStar e))) w ↔ LangCat g w := by
  have eA : atomsOf g = List.replicate (atomsOf g).length k :=
    List.eq_replicate_iff.2 ⟨rfl, fun e he => ((run_parts hg).1 e he).1⟩
  have h2' : ∀ e ∈ g, isPlus e = false := fun e he =>
    Bool.eq_false_iff.2 fun hp => h2 (List.any_eq_true.2 ⟨e, he, hp⟩)
  have eC : g.filter (fun e => !isStar e) = atomsOf g :=
    (List.filter_eq_self.2 fun e he => by rw [h2' e (List.mem_filter.1 he).1]; rfl).symm
  have eP0 : plusOf g = [] :=
    List.filter_eq_nil_iff.2 fun e he => by rw [h2' e (List.mem_filter.1 he).1]; exact Bool.false_ne_true
  have hAne : atomsOf g ≠ [] := fun h =>
    h1 (List.all_eq_true.2 fun e he => by simpa using List.filter_eq_nil_iff.1 (eC.trans h) e he)
  obtain ⟨a, ha⟩ := Nat.exists_eq_add_one_of_ne_zero (mt List.length_eq_zero_iff.1 hAne)
  rw [run_lang k g hg, eC, eP0, eA, ha, mapLast_replicate, langCat_replicate_plus]
  exact fac_congr (by rw [List.length_replicate]; rfl) (by rw [h3]; rfl)

theorem compressGroup_lang (k : Re) (g : List Re) (hg : ∀ e ∈ g, InRun k e) (w : List Char) :
    LangCat (compressGroup g) w ↔ LangCat g w := by
  rcases g with _ | ⟨x, _ | ⟨y, t⟩⟩
  · exact Iff.rfl
  · exact Iff.rfl
  rw [compressGroup_cons_cons]
  -- of the list, the branches use only that `x` is in it
  have hx : x ∈ x :: y :: t := List.mem_cons_self
  generalize x :: y :: t = g at hg hx ⊢
  split
  · next h1 => exact langCat_single_of_all_star hg hx h1 w
  · next h1 =>
    split
    · next h2 => exact langCat_dropLastMap_unPlus hg h2 w
    · next h2 =>
      split
      · next h3 => exact langCat_mapLast_plus hg h1 h2 h3 w
      · exact Iff.rfl

theorem beqL_eq_of {as : List Re} (ih : ∀ a ∈ as, ∀ b, Re.beq a b = true → a = b) (bs : List Re)
    (h : Re.beqL as bs = true) : as = bs :=
  have ⟨hl, hs⟩ := (List.pointwise_iff rfl (fun _ _ => rfl) (fun _ _ => rfl) (fun _ _ _ _ => rfl) as bs).1 h
  List.ext_getElem hl fun n h1 h2 => ih _ (List.getElem_mem h1) _ (hs n h1 h2)

theorem beq_eq (a b : Re) (h : Re.beq a b = true) : a = b := by
  induction a using Re.rec (motive_2 := fun as => ∀ a ∈ as, ∀ b, Re.beq a b = true → a = b) generalizing b
  case nil _ h _ _ => cases h
  case cons iha ihas _ h b hb =>
    rcases List.mem_cons.mp h with rfl | h
    · exact iha b hb
    · exact ihas _ h b hb
  all_goals
    cases b <;> try contradiction
  case str => rw [eq_of_beq h]
  case range =>
    obtain ⟨h1, h2⟩ := Bool.and_eq_true_iff.1 h
    rw [eq_of_beq h1, eq_of_beq h2]
  case allchar | all | none => rfl
  case union ih _ | concat ih _ | inter ih _ => rw [beqL_eq_of ih _ h]
  case star ih _ | plus ih _ | opt ih _ | comp ih _ => rw [ih _ h]
  case loop ih _ _ _ =>
    obtain ⟨h12, h3⟩ := Bool.and_eq_true_iff.1 h
    obtain ⟨h1, h2⟩ := Bool.and_eq_true_iff.1 h12
    rw [ih _ h1, eq_of_beq h2, eq_of_beq h3]
  case diff iha ihb _ _ =>
    obtain ⟨h1, h2⟩ := Bool.and_eq_true_iff.1 h
    rw [iha _ h1, ihb _ h2]

theorem beqL_eq_aux : ∀ (as bs : List Re), Re.beqL as bs = true → as = bs :=
  fun _ => beqL_eq_of fun a _ => beq_eq a

theorem groupRuns_spec (rs : List Re) :
    (groupRuns rs).flatten = rs ∧ ∀ g ∈ groupRuns rs, ∃ k, ∀ e ∈ g, groupKey e = k := by
  induction rs with
  | nil => exact ⟨rfl, fun _ h => nomatch h⟩
  | cons r rs ih =>
    have single : ∃ k, ∀ e ∈ [r], groupKey e = k := ⟨_, fun e he => by rw [List.mem_singleton.1 he]⟩
    unfold groupRuns
    split
    · next h =>
      rw [h] at ih
      exact ⟨by rw [← ih.1]; rfl, List.forall_mem_cons.2 ⟨single, ih.2⟩⟩
    · next g gs h =>
      rw [h, List.flatten_cons, List.forall_mem_cons] at ih
      obtain ⟨hfl, ⟨k, hk⟩, hgs⟩ := ih
      split
      · exact ⟨by rw [← hfl]; rfl, List.forall_mem_cons.2 ⟨single, hgs⟩⟩
      · next x t =>
        split
        · next hb =>
          refine ⟨by rw [← hfl]; rfl, List.forall_mem_cons.2 ⟨⟨k, List.forall_mem_cons.2 ⟨?_, hk⟩⟩, hgs⟩⟩
          rw [beq_eq _ _ hb]
          exact hk x List.mem_cons_self
        · exact ⟨by rw [← hfl]; rfl, List.forall_mem_cons.2 ⟨single, List.forall_mem_cons.2 ⟨⟨k, hk⟩, hgs⟩⟩⟩

theorem flatMap_compress_lang (gs : List (List Re))
    (h : ∀ g ∈ gs, ∃ k, ∀ e ∈ g, groupKey e = k) (w : List Char) :
    LangCat (gs.flatMap compressGroup) w ↔ LangCat gs.flatten w := by
  induction gs generalizing w with
  | nil => exact Iff.rfl
  | cons g gs ih =>
    obtain ⟨k, hk⟩ := h g List.mem_cons_self
    have hg : ∀ e ∈ g, InRun k e := fun e he => inRun_of_key k e (hk e he)
    have ih' := ih (fun g hg => h g (List.mem_cons_of_mem _ hg))
    simp only [List.flatMap_cons, List.flatten_cons, langCat_append, compressGroup_lang k g hg, ih']

end IslaVerif.C15
