import IslaVerif.Model.Intervals
import IslaVerif.Proofs.Regex
import IslaVerif.Proofs.Digits
import IslaVerif.Proofs.Basics
/-
Interval lists under the sentinel semantics (`memIv`: a bound `±maxsize` is open). `merge_intervals` folds
`mergeStep` over the list sorted by lower bound, and `mergeStep_spec` is the invariant of one step. The inference
is treated shape by shape through `Infers fuel r`; the fuel needed is the depth of the recursion, at most `size r`.
`Bounded`, `Separated`, `Exact` and `Shape0` are what the theorems of Properties/C15 are stated with; the
other definitions serve the proofs only.
-/
namespace IslaVerif.C15
open IslaVerif.Re IslaVerif.Intervals

/-- all bounds lie within the sentinels and intervals are non-empty -/
def Bounded (l : List Iv) : Prop := ∀ iv ∈ l, -maxsize ≤ iv.1 ∧ iv.2 ≤ maxsize ∧ iv.1 ≤ iv.2

/-- the condition that `Bounded`, stated without it, spells out for each interval -/
def OkIv (iv : Iv) : Prop := -maxsize ≤ iv.1 ∧ iv.2 ≤ maxsize ∧ iv.1 ≤ iv.2

theorem bounded_cons {x : Iv} {l : List Iv} : Bounded (x :: l) ↔ OkIv x ∧ Bounded l :=
  List.forall_mem_cons

/-- sorted by lower bound and pairwise separated by at least one integer: what `mergeIntervals_shape` says of
the result of `merge_intervals`; no theorem takes it as a hypothesis -/
def Separated : List Iv → Prop
  | [] => True
  | [_] => True
  | a :: b :: rest => a.2 + 1 < b.1 ∧ Separated (b :: rest)

/-- the interval list `I` denotes exactly the integer values of the strings matched by `r` -/
def Exact (r : Re) (I : List Iv) : Prop :=
  ∀ n : Int, inIvs I n = true ↔ ∃ s, Lang r s ∧ intVal s = some n

/-- the documented shape without concatenations: digits, ordered digit ranges, zero sequences,
full digit sequences, and unions thereof -/
inductive Shape0 : Re → Prop
  | digit (c : Char) : isDigit c = true → Shape0 (.str [c])
  | range (a b : Char) : isDigit a = true → isDigit b = true → a.toNat ≤ b.toNat → Shape0 (.range [a] [b])
  | zeroesStar : Shape0 (.star (.str ['0']))
  | zeroesPlus : Shape0 (.plus (.str ['0']))
  | fullStar : Shape0 (.star digitRange09)
  | fullPlus : Shape0 (.plus digitRange09)
  | union (rs : List Re) : rs ≠ [] → (∀ r ∈ rs, Shape0 r) → Shape0 (.union rs)

def memIv (iv : Iv) (n : Int) : Prop := (iv.1 = -maxsize ∨ iv.1 ≤ n) ∧ (iv.2 = maxsize ∨ n ≤ iv.2)

/-- what `sorted(key=lo)`, here `sortByLo`, establishes -/
abbrev SortedLo (l : List Iv) : Prop := l.Pairwise fun a b => a.1 ≤ b.1

/-- the accumulator of the `reduce` (last interval first) is pairwise separated, in descending order -/
abbrev SepDesc (l : List Iv) : Prop := l.Pairwise fun a b => b.2 + 1 < a.1

def Infers (fuel : Nat) (r : Re) : Prop := ∃ I, intervals fuel r = some I ∧ Bounded I ∧ Exact r I

theorem bounded_single {x : Iv} (h : OkIv x) : Bounded [x] := bounded_cons.2 ⟨h, fun _ h => nomatch h⟩

/-- the left side is the test that `inIvs` applies to each interval -/
theorem memIv_test (iv : Iv) (n : Int) :
    ((iv.1 == -maxsize || decide (iv.1 ≤ n)) && (iv.2 == maxsize || decide (n ≤ iv.2))) = true ↔ memIv iv n := by
  simp only [memIv, Bool.and_eq_true, Bool.or_eq_true, beq_iff_eq, decide_eq_true_eq]

theorem inIvs_cons (iv : Iv) (l : List Iv) (n : Int) :
    inIvs (iv :: l) n = true ↔ memIv iv n ∨ inIvs l n = true :=
  Bool.or_eq_true_iff.trans (or_congr_left (memIv_test iv n))

theorem inIvs_iff (l : List Iv) (n : Int) : inIvs l n = true ↔ ∃ iv ∈ l, memIv iv n :=
  List.any_eq_true.trans <| exists_congr fun iv => and_congr_right' (memIv_test iv n)

theorem inIvs_flatten (ls : List (List Iv)) (n : Int) :
    inIvs ls.flatten n = true ↔ ∃ l ∈ ls, inIvs l n = true := by
  rw [inIvs, List.any_flatten, List.any_eq_true]
  rfl

theorem inIvs_single {a b : Int} (n : Int) (ha : -maxsize < a) (hb : b < maxsize) :
    inIvs [(a, b)] n = true ↔ a ≤ n ∧ n ≤ b := by
  -- neither bound is a sentinel
  rw [inIvs_cons, memIv, or_iff_right (Int.ne_of_gt ha), or_iff_right (Int.ne_of_lt hb)]
  exact or_iff_left Bool.false_ne_true

theorem okIv_of_lt {a b : Int} (ha : -maxsize < a) (hb : b < maxsize) (hab : a ≤ b) : OkIv (a, b) :=
  ⟨Int.le_of_lt ha, Int.le_of_lt hb, hab⟩

theorem nine_lt_maxsize : 9 < maxsize := by decide

theorem inIvs_open (n : Int) : inIvs [(0, maxsize)] n = true ↔ 0 ≤ n := by
  simp [inIvs_iff, memIv, maxsize]

theorem mem_insertSorted {x y : Iv} {l : List Iv} : y ∈ insertSorted x l ↔ y = x ∨ y ∈ l := by
  induction l with
  | nil => simp [insertSorted]
  | cons a l ih =>
    unfold insertSorted
    split
    · simp
    · rw [List.mem_cons, ih, List.mem_cons, or_left_comm]

theorem sorted_insertSorted (x : Iv) {l : List Iv} (h : SortedLo l) : SortedLo (insertSorted x l) := by
  induction l with
  | nil => exact List.pairwise_singleton ..
  | cons a l ih =>
    obtain ⟨h1, h2⟩ := List.pairwise_cons.mp h
    unfold insertSorted
    split
    · next hlt =>
      refine List.pairwise_cons.mpr ⟨List.forall_mem_cons.2 ⟨Int.le_of_lt hlt, fun b hb => ?_⟩, h⟩
      exact Int.le_trans (Int.le_of_lt hlt) (h1 b hb)
    · next hge =>
      refine List.pairwise_cons.mpr ⟨fun b hb => ?_, ih h2⟩
      rcases mem_insertSorted.mp hb with rfl | hb
      · exact Int.not_lt.1 hge
      · exact h1 b hb

theorem sortByLo_sorted (l : List Iv) : SortedLo (sortByLo l) :=
  List.foldlRecOn l _ List.Pairwise.nil fun _ h x _ => sorted_insertSorted x h

theorem mem_foldl_insertSorted {y : Iv} (l acc : List Iv) :
    y ∈ l.foldl (fun acc x => insertSorted x acc) acc ↔ y ∈ l ∨ y ∈ acc := by
  induction l generalizing acc with
  | nil => simp
  | cons a l ih => rw [List.foldl_cons, ih, mem_insertSorted, List.mem_cons, or_left_comm, or_assoc]

theorem mem_sortByLo {l : List Iv} {y : Iv} : y ∈ sortByLo l ↔ y ∈ l := by
  simp [sortByLo, mem_foldl_insertSorted]

theorem okIv_hull {a x : Iv} (ha : OkIv a) (hx : OkIv x) : OkIv (a.1, max a.2 x.2) := by
  unfold OkIv at *
  omega

/-- an interval that lies inside `b`, sentinels included, has its members in `b` -/
theorem memIv_mono {a b : Iv} {n : Int} (hb : OkIv b) (h1 : b.1 ≤ a.1) (h2 : a.2 ≤ b.2) : memIv a n → memIv b n := by
  -- a sentinel bound of `a` forces the same bound on `b`, which lies within the sentinels
  unfold memIv OkIv at *
  omega

theorem memIv_hull {a x : Iv} (ha : OkIv a) (hx : OkIv x) (hax : a.1 ≤ x.1) (h : ¬ a.2 + 1 < x.1)
    (n : Int) : memIv (a.1, max a.2 x.2) n ↔ memIv a n ∨ memIv x n := by
  constructor
  · rintro ⟨hl, hu⟩
    rcases Int.le_total x.2 a.2 with hle | hle
    · -- `x` ends inside `a`
      exact .inl ⟨hl, Int.max_eq_left hle ▸ hu⟩
    · by_cases hua : a.2 = maxsize ∨ n ≤ a.2
      · exact .inl ⟨hl, hua⟩
      · -- `h`: the two overlap or touch, so beyond `a` one has `x.1 ≤ a.2 + 1 ≤ n`
        exact .inr ⟨.inr (by omega), Int.max_eq_right hle ▸ hu⟩
  · rintro (hm | hm)
    · exact memIv_mono (a := a) (okIv_hull ha hx) (Int.le_refl _) (Int.le_max_left ..) hm
    · exact memIv_mono (a := x) (okIv_hull ha hx) hax (Int.le_max_right ..) hm

theorem mergeStep_spec {acc : List Iv} {x : Iv} (hb : Bounded acc) (hs : SepDesc acc) (hx : OkIv x)
    (hlo : ∀ a ∈ acc, a.1 ≤ x.1) :
    Bounded (mergeStep acc x) ∧ SepDesc (mergeStep acc x) ∧ (∀ a ∈ mergeStep acc x, a.1 ≤ x.1) ∧
      ∀ n, inIvs (mergeStep acc x) n = true ↔ inIvs acc n = true ∨ memIv x n := by
  cases acc with
  | nil => exact ⟨bounded_single hx, List.pairwise_singleton .., List.forall_mem_cons.2 ⟨Int.le_refl _, hlo⟩,
      fun n => by rw [mergeStep, inIvs_cons, or_comm]⟩
  | cons a acc =>
    obtain ⟨ha, hacc⟩ := bounded_cons.1 hb
    obtain ⟨hs1, hs2⟩ := List.pairwise_cons.1 hs
    obtain ⟨hax, hlo'⟩ := List.forall_mem_cons.1 hlo
    by_cases h : a.2 + 1 < x.1
    · rw [mergeStep, if_pos h]
      refine ⟨bounded_cons.2 ⟨hx, hb⟩, List.pairwise_cons.2 ⟨List.forall_mem_cons.2 ⟨h, fun b hb' => ?_⟩, hs⟩,
        List.forall_mem_cons.2 ⟨Int.le_refl _, hlo⟩, fun n => by rw [inIvs_cons, or_comm]⟩
      -- `b` ends before `a` starts, and `a` is not empty
      have := hs1 b hb'
      have := ha.2.2
      omega
    · rw [mergeStep, if_neg h]
      refine ⟨bounded_cons.2 ⟨okIv_hull ha hx, hacc⟩, List.pairwise_cons.2 ⟨hs1, hs2⟩,
        List.forall_mem_cons.2 ⟨hax, hlo'⟩, fun n => ?_⟩
      rw [inIvs_cons, inIvs_cons, memIv_hull ha hx hax h, or_right_comm]

theorem foldl_mergeStep_spec (l : List Iv) {acc : List Iv} (hb : Bounded acc) (hs : SepDesc acc) (hbl : Bounded l)
    (hsl : SortedLo l) (hle : ∀ a ∈ acc, ∀ x ∈ l, a.1 ≤ x.1) :
    Bounded (l.foldl mergeStep acc) ∧ SepDesc (l.foldl mergeStep acc) ∧
      ∀ n, inIvs (l.foldl mergeStep acc) n = true ↔ inIvs acc n = true ∨ inIvs l n = true := by
  induction l generalizing acc with
  | nil => exact ⟨hb, hs, fun n => (or_iff_left Bool.false_ne_true).symm⟩
  | cons x l ih =>
    obtain ⟨hx, hbl'⟩ := bounded_cons.1 hbl
    obtain ⟨hxl, hsl'⟩ := List.pairwise_cons.1 hsl
    obtain ⟨hb', hs', hlo', hden⟩ :=
      mergeStep_spec hb hs hx fun a ha => hle a ha x List.mem_cons_self
    obtain ⟨h1, h2, h3⟩ := ih hb' hs' hbl' hsl' fun a ha y hy => Int.le_trans (hlo' a ha) (hxl y hy)
    exact ⟨h1, h2, fun n => by rw [List.foldl_cons, h3, hden, inIvs_cons, or_assoc]⟩

theorem separated_of_pairwise {l : List Iv} (h : l.Pairwise fun a b => a.2 + 1 < b.1) : Separated l := by
  induction l with
  | nil => trivial
  | cons a l ih =>
    cases l with
    | nil => trivial
    | cons b rest =>
      have ⟨h1, h2⟩ := List.pairwise_cons.mp h
      exact ⟨h1 b List.mem_cons_self, ih h2⟩

theorem mergeSorted_spec (l : List Iv) (hb : Bounded l) :
    Bounded (mergeSorted (sortByLo l)) ∧ Separated (mergeSorted (sortByLo l)) ∧
    ∀ n, inIvs (mergeSorted (sortByLo l)) n = true ↔ inIvs l n = true := by
  obtain ⟨h1, h2, h3⟩ := foldl_mergeStep_spec (sortByLo l) (acc := []) (fun _ h => nomatch h) List.Pairwise.nil
    (fun iv hiv => hb iv (mem_sortByLo.mp hiv)) (sortByLo_sorted l) (fun _ h => nomatch h)
  refine ⟨fun iv hiv => h1 iv (List.mem_reverse.mp hiv),
    separated_of_pairwise (List.pairwise_reverse.2 h2), fun n => ?_⟩
  rw [mergeSorted, inIvs, List.any_reverse, ← inIvs, h3]
  refine (or_iff_right Bool.false_ne_true).trans ?_
  simp only [inIvs_iff, mem_sortByLo]

theorem mergeIntervals_map {α : Type} (f : α → Option (List Iv)) {xs : List α} (hne : xs ≠ [])
    (hb : ∀ x ∈ xs, ∃ l, f x = some l ∧ Bounded l) :
    ∃ m, mergeIntervals (xs.map f) = some m ∧ Bounded m ∧ Separated m ∧
      ∀ n, inIvs m n = true ↔ ∃ x ∈ xs, ∃ l, f x = some l ∧ inIvs l n = true := by
  have hm : mergeIntervals (xs.map f) = some (mergeSorted (sortByLo (xs.filterMap f).flatten)) := by
    have hs : (xs.map f).mapM id = some (xs.filterMap f) := List.mapM_eq_some_iff.2 <| by
      rw [List.map_id]
      refine List.map_eq_map_some_filterMap fun x hx => ?_
      obtain ⟨l, hl, _⟩ := hb x hx
      rw [hl]; rfl
    rw [mergeIntervals, hs, List.isEmpty_map, List.isEmpty_eq_false_iff.2 hne]
    rfl
  obtain ⟨h1, h2, h3⟩ := mergeSorted_spec (xs.filterMap f).flatten fun iv hiv => by
    obtain ⟨l, hl, hiv⟩ := List.mem_flatten.1 hiv
    obtain ⟨x, hx, hxl⟩ := List.mem_filterMap.1 hl
    obtain ⟨l', hl', hbl⟩ := hb x hx
    cases hxl.symm.trans hl'
    exact hbl iv hiv
  refine ⟨_, hm, h1, h2, fun n => ?_⟩
  rw [h3, inIvs_flatten]
  simp only [List.mem_filterMap]
  constructor
  · rintro ⟨l, ⟨x, hx, hl⟩, hn⟩
    exact ⟨x, hx, l, hl, hn⟩
  · rintro ⟨x, hx, l, hl, hn⟩
    exact ⟨l, ⟨x, hx, hl⟩, hn⟩

theorem isDigit_iff (c : Char) : isDigit c = true ↔ 48 ≤ c.toNat ∧ c.toNat ≤ 57 := by
  simp [isDigit]

theorem isDigit_eq_smt : isDigit = Smt.isDigitC := rfl

theorem digitsVal_eq_smt : digitsVal = Smt.digitsVal := rfl

theorem intVal_digits {s : List Char} (h : ∀ c ∈ s, isDigit c = true) (n : Int) :
    intVal s = some n ↔ s ≠ [] ∧ n = digitsVal s := by
  unfold intVal pyInt
  split
  · exact absurd (h '-' List.mem_cons_self) (by decide)
  · exact absurd (h '+' List.mem_cons_self) (by decide)
  · rw [List.all_eq_true.2 h]
    cases s <;> simp [eq_comm]

theorem intVal_digit {c : Char} (h : isDigit c = true) (n : Int) :
    intVal [c] = some n ↔ n = (c.toNat - 48 : Nat) := by
  have hv : digitsVal [c] = c.toNat - 48 := Nat.zero_add _
  rw [intVal_digits (List.forall_mem_singleton.2 h), hv]
  exact and_iff_right (List.cons_ne_nil c [])

theorem digitsVal_zeros (s : List Char) (h : ∀ c ∈ s, c = '0') : digitsVal s = 0 := by
  rw [digitsVal_eq_smt, Smt.digitsVal_eq, List.eq_replicate_iff.2 ⟨rfl, h⟩, Nat.ofDigitChars_replicate_zero,
    Nat.mul_zero]

theorem exists_digit (k : Nat) (h : k < 10) : ∃ c : Char, isDigit c = true ∧ c.toNat = k + 48 :=
  have hc : k.digitChar.toNat = k + 48 := by rw [Nat.toNat_digitChar_of_lt_ten h, Nat.add_comm]
  ⟨k.digitChar, (isDigit_iff _).2 (by omega), hc⟩

theorem exists_digits (n : Nat) : ∃ s : List Char, s ≠ [] ∧ (∀ c ∈ s, isDigit c = true) ∧ digitsVal s = n :=
  ⟨Nat.toDigits 10 n, by rw [isDigit_eq_smt, digitsVal_eq_smt]; exact Smt.toDigits_spec n⟩

theorem lang_star_chars {r : Re} {P : Char → Prop} (h : ∀ x, Lang r x ↔ ∃ c, x = [c] ∧ P c)
    (s : List Char) : Lang (star r) s ↔ ∀ c ∈ s, P c := by
  unfold Lang
  constructor
  · rintro ⟨ws, rfl, hws⟩ c hc
    obtain ⟨x, hx, hcx⟩ := List.mem_flatten.mp hc
    obtain ⟨d, rfl, hd⟩ := (h x).1 (hws x hx)
    rwa [List.mem_singleton.1 hcx]
  · intro hs
    refine ⟨s.map fun c => [c], (List.flatMap_singleton' s).symm, fun x hx => ?_⟩
    obtain ⟨c, hc, rfl⟩ := List.mem_map.mp hx
    exact (h [c]).2 ⟨c, rfl, hs c hc⟩

theorem lang_star_zeros (s : List Char) : Lang (star (str ['0'])) s ↔ ∀ c ∈ s, c = '0' :=
  lang_star_chars (fun x => by simp [Lang]) s

theorem lang_star_digits (s : List Char) : Lang (star digitRange09) s ↔ ∀ c ∈ s, isDigit c = true :=
  lang_star_chars (fun _ => Iff.rfl) s

theorem lang_star_iff_plus (r : Re) (s : List Char) : Lang (star r) s ↔ s = [] ∨ Lang (plus r) s := by
  simp only [Lang]
  constructor
  · rintro ⟨ws, rfl, hws⟩
    cases ws with
    | nil => exact .inl rfl
    | cons x ws => exact .inr ⟨x :: ws, List.cons_ne_nil _ _, rfl, hws⟩
  · rintro (rfl | ⟨ws, _, rfl, hws⟩)
    · exact ⟨[], rfl, fun _ h => nomatch h⟩
    · exact ⟨ws, rfl, hws⟩

/-- the empty string has no value, so `r+` has the values of `r*` -/
theorem exact_plus {r : Re} {I : List Iv} (h : Exact (star r) I) : Exact (plus r) I := fun n =>
  (h n).trans <| exists_congr fun s => and_congr_left fun hv =>
    (lang_star_iff_plus r s).trans (or_iff_right (by rintro rfl; cases hv))

/-- the value of a digit lies strictly inside the sentinels -/
theorem digit_bounds {c : Char} (hc : isDigit c = true) :
    -maxsize < ((c.toNat - 48 : Nat) : Int) ∧ ((c.toNat - 48 : Nat) : Int) < maxsize := by
  have := (isDigit_iff c).1 hc
  have := nine_lt_maxsize
  omega

theorem exact_range {a b : Char} (ha : isDigit a = true) (hb : isDigit b = true) :
    Exact (range [a] [b]) [(((a.toNat - 48 : Nat) : Int), ((b.toNat - 48 : Nat) : Int))] := by
  have ha' := (isDigit_iff a).mp ha
  have hb' := (isDigit_iff b).mp hb
  intro n
  rw [inIvs_single n (digit_bounds ha).1 (digit_bounds hb).2]
  simp only [Lang, rangeHas, Bool.and_eq_true, decide_eq_true_eq]
  constructor
  · intro ⟨h1, h2⟩
    obtain ⟨k, rfl⟩ := Int.eq_ofNat_of_zero_le (by omega : 0 ≤ n)
    -- the digit `k + 48` lies between `a` and `b`
    have hk : a.toNat ≤ k + 48 ∧ k + 48 ≤ b.toNat := by omega
    obtain ⟨c, hd, hc⟩ := exists_digit k (by omega)
    exact ⟨[c], ⟨c, rfl, hc ▸ hk⟩, (intVal_digit hd k).2 (by rw [hc, Nat.add_sub_cancel])⟩
  · rintro ⟨s, ⟨c, rfl, hac, hcb⟩, hv⟩
    -- `c` lies between two digits, so it is one
    rw [intVal_digit ((isDigit_iff c).2 (by omega))] at hv
    subst hv
    omega

theorem exact_digit {c : Char} (hc : isDigit c = true) :
    Exact (str [c]) [(((c.toNat - 48 : Nat) : Int), ((c.toNat - 48 : Nat) : Int))] := by
  intro n
  rw [inIvs_single n (digit_bounds hc).1 (digit_bounds hc).2]
  simp only [Lang, exists_eq_left, intVal_digit hc]
  exact and_comm.trans Int.le_antisymm_iff.symm

theorem exact_zeros : Exact (star (str ['0'])) [(0, 0)] := by
  intro n
  rw [inIvs_single n (by decide) (by decide)]
  constructor
  · intro h
    obtain rfl := Int.le_antisymm h.2 h.1
    exact ⟨['0'], (lang_star_zeros _).2 fun _ h => List.mem_singleton.1 h, rfl⟩
  · rintro ⟨s, hs, hv⟩
    have hz := (lang_star_zeros s).1 hs
    rw [intVal_digits (fun c hc => by rw [hz c hc]; decide), digitsVal_zeros s hz] at hv
    rw [hv.2]
    exact ⟨Int.le_refl _, Int.le_refl _⟩

theorem exact_full : Exact (star digitRange09) [(0, maxsize)] := by
  intro n
  rw [inIvs_open]
  constructor
  · intro h
    obtain ⟨s, h1, h2, h3⟩ := exists_digits n.toNat
    exact ⟨s, (lang_star_digits s).2 h2, (intVal_digits h2 n).2 ⟨h1, by rw [h3, Int.toNat_of_nonneg h]⟩⟩
  · rintro ⟨s, hs, hv⟩
    rw [intVal_digits ((lang_star_digits s).1 hs)] at hv
    rw [hv.2]
    exact Int.natCast_nonneg _

theorem intervals_str (f : Nat) (s : List Char) :
    intervals (f + 1) (str s) = (pyInt s).map fun n => [(n, n)] := rfl

theorem intervals_range (f : Nat) (lo hi : List Char) :
    intervals (f + 1) (range lo hi) =
      if (match lo, hi with | a :: _, b :: _ => isDigit a && isDigit b | _, _ => false) then
        match pyInt lo, pyInt hi with
        | some l, some h => if l ≤ h then some [(l, h)] else .none
        | _, _ => .none
      else .none := rfl

theorem intervals_star (f : Nat) (r : Re) :
    intervals (f + 1) (star r) =
      if (match intervals f r with | some [(0, 0)] => true | _ => false) then some [(0, 0)]
      else if Re.beq r digitRange09 then some [(0, maxsize)] else .none := rfl

theorem intervals_zero (fuel : Nat) : intervals (fuel + 1) (str ['0']) = some [(0, 0)] := rfl

theorem intervals_d09 (fuel : Nat) :
    intervals fuel digitRange09 = Option.none ∨ intervals fuel digitRange09 = some [(0, 9)] := by
  cases fuel with
  | zero => exact .inl rfl
  | succ f => exact .inr rfl

theorem infers_range (f : Nat) {a b : Char} (ha : isDigit a = true) (hb : isDigit b = true)
    (hab : a.toNat ≤ b.toNat) : Infers (f + 1) (range [a] [b]) := by
  have hle : ((a.toNat - 48 : Nat) : Int) ≤ (b.toNat - 48 : Nat) := Int.ofNat_le.2 (Nat.sub_le_sub_right hab 48)
  refine ⟨_, ?_, bounded_single (okIv_of_lt (digit_bounds ha).1 (digit_bounds hb).2 hle), exact_range ha hb⟩
  have hv (c : Char) (hc : isDigit c = true) : pyInt [c] = some ((c.toNat - 48 : Nat) : Int) :=
    (intVal_digit hc _).2 rfl
  simp only [intervals_range, ha, hb, hv a ha, hv b hb, Bool.and_self, if_true]
  exact if_pos hle

theorem infers_digit (f : Nat) {c : Char} (hc : isDigit c = true) : Infers (f + 1) (str [c]) := by
  refine ⟨_, ?_, bounded_single (okIv_of_lt (digit_bounds hc).1 (digit_bounds hc).2 (Int.le_refl _)),
    exact_digit hc⟩
  rw [intervals_str, ← intVal, (intVal_digit hc _).2 rfl]
  rfl

/-- two levels of recursion: the star, and `'0'` below it -/
theorem infers_zeros (f : Nat) : Infers (f + 2) (star (str ['0'])) :=
  ⟨_, by rw [intervals_star, intervals_zero]; rfl, bounded_single (by unfold OkIv; decide), exact_zeros⟩

/-- one level: `[0-9]` below the star is recognised by `Re.beq`; of its own intervals the star only asks
whether they are `[(0, 0)]`, and they are not, whether or not the fuel reaches it -/
theorem infers_full (f : Nat) : Infers (f + 1) (star digitRange09) := by
  refine ⟨_, ?_, bounded_single (by unfold OkIv; decide), exact_full⟩
  rw [intervals_star]
  rcases intervals_d09 f with h | h
  · rw [h]; rfl
  · rw [h]; rfl

theorem infers_plus {f : Nat} {r : Re} : Infers (f + 1) (star r) → Infers (f + 1) (plus r)
  | ⟨I, h1, h2, h3⟩ => ⟨I, h1, h2, exact_plus h3⟩

theorem infers_union (f : Nat) {rs : List Re} (hne : rs ≠ []) (h : ∀ r ∈ rs, Infers f r) :
    Infers (f + 1) (union rs) := by
  obtain ⟨m, hm, hb, -, hden⟩ := mergeIntervals_map (intervals f) hne fun r hr =>
    (h r hr).imp fun _ hI => ⟨hI.1, hI.2.1⟩
  refine ⟨m, hm, hb, fun n => ?_⟩
  rw [hden]
  simp only [Lang, langAny_iff]
  constructor
  · rintro ⟨r, hr, I, hI, hn⟩
    obtain ⟨I', hI', -, he⟩ := h r hr
    cases hI.symm.trans hI'
    obtain ⟨s, hs, hv⟩ := (he n).1 hn
    exact ⟨s, ⟨r, hr, hs⟩, hv⟩
  · rintro ⟨s, ⟨r, hr, hs⟩, hv⟩
    obtain ⟨I, hI, -, he⟩ := h r hr
    exact ⟨r, hr, I, hI, (he n).2 ⟨s, hs, hv⟩⟩

theorem size_le_sizeL (rs : List Re) (r : Re) (h : r ∈ rs) : size r ≤ sizeL rs := by
  induction rs with
  | nil => cases h
  | cons a t ih =>
    rw [sizeL]
    rcases List.mem_cons.mp h with rfl | h
    · exact Nat.le_add_right ..
    · exact Nat.le_trans (ih h) (Nat.le_add_left ..)

/-- `k` is the depth to which `intervals` recurses on `r` -/
theorem infers_of_le {r : Re} {k : Nat} (h : ∀ f, Infers (f + k) r) (fuel : Nat) (hf : k ≤ fuel) :
    Infers fuel r := by
  rw [← Nat.sub_add_cancel hf]
  exact h _

/-- `size r` bounds the depth of the recursion on this shape, and `numericIntervals` runs with fuel
`3 * size r + 10` (the surplus is for the concatenation arms, which recurse on rebuilt expressions) -/
theorem infers_of_shape0 (r : Re) (h : Shape0 r) : ∀ fuel, size r ≤ fuel → Infers fuel r := by
  -- every arm is `infers_of_le` with `k = size r`; `[0-9]*` has size 2 and needs depth 1, hence `f + 1` there
  induction h with
  | digit c hc => exact infers_of_le fun f => infers_digit f hc
  | range a b ha hb hab => exact infers_of_le fun f => infers_range f ha hb hab
  | zeroesStar => exact infers_of_le infers_zeros
  | zeroesPlus => exact infers_of_le fun f => infers_plus (infers_zeros f)
  | fullStar => exact infers_of_le fun f => infers_full (f + 1)
  | fullPlus => exact infers_of_le fun f => infers_plus (infers_full (f + 1))
  | union rs hne hall ih =>
    intro fuel hf
    have hf : sizeL rs + 1 ≤ fuel := by rwa [Nat.add_comm]
    refine infers_of_le (k := sizeL rs + 1) (fun f => infers_union (f + sizeL rs) hne fun r hr => ih r hr _ ?_) fuel hf
    exact Nat.le_trans (size_le_sizeL rs r hr) (Nat.le_add_left ..)

end IslaVerif.C15
