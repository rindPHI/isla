import IslaVerif.Model.Smt
/-
The operators of the oracle `Smt.eval` against their SMT-LIB definitions, and its typing. Typing turns on
`sortOf`, the sort read off the head operator: `wt t τ` and `eval t = some v` each force it, so `eval_type` needs
no induction; only definedness (`eval_isSome`) is an induction over the term.
-/
namespace IslaVerif.C05
open IslaVerif.Smt

/-- the sorts of SMT-LIB's Strings, Ints and Core theories, which `Term` covers -/
inductive Ty where | str | int | bool
  deriving DecidableEq, Repr

def valTy : Val → Ty
  | .str _ => .str
  | .int _ => .int
  | .bool _ => .bool

mutual
/-- `wt t τ`: `t` is well sorted, of sort `τ`, by the SMT-LIB signatures of its operators (`-` takes at least
one argument, `=` two of any one sort); every arm tests the result sort first, then the arguments -/
def wt : Term → Ty → Bool
  | .strLit _, τ => τ == .str
  | .intLit _, τ => τ == .int
  | .boolLit _, τ => τ == .bool
  | .len t, τ => τ == .int && wt t .str
  | .concat ts, τ => τ == .str && wtAll ts .str
  | .strAt s i, τ => τ == .str && wt s .str && wt i .int
  | .substr s i n, τ => τ == .str && wt s .str && wt i .int && wt n .int
  | .prefixof a b, τ => τ == .bool && wt a .str && wt b .str
  | .suffixof a b, τ => τ == .bool && wt a .str && wt b .str
  | .contains a b, τ => τ == .bool && wt a .str && wt b .str
  | .indexof s t i, τ => τ == .int && wt s .str && wt t .str && wt i .int
  | .replace s t u, τ => τ == .str && wt s .str && wt t .str && wt u .str
  | .toInt s, τ => τ == .int && wt s .str
  | .fromInt n, τ => τ == .str && wt n .int
  | .toCode s, τ => τ == .int && wt s .str
  | .isDigit s, τ => τ == .bool && wt s .str
  | .strLe a b, τ => τ == .bool && wt a .str && wt b .str
  | .inRe s _, τ => τ == .bool && wt s .str
  | .add ts, τ => τ == .int && wtAll ts .int
  | .sub ts, τ => τ == .int && !ts.isEmpty && wtAll ts .int
  | .mul ts, τ => τ == .int && wtAll ts .int
  | .div a b, τ => τ == .int && wt a .int && wt b .int
  | .mod a b, τ => τ == .int && wt a .int && wt b .int
  | .neg a, τ => τ == .int && wt a .int
  | .abs a, τ => τ == .int && wt a .int
  | .eq a b, τ => τ == .bool && ((wt a .str && wt b .str) || (wt a .int && wt b .int) || (wt a .bool && wt b .bool))
  | .lt a b, τ => τ == .bool && wt a .int && wt b .int
  | .le a b, τ => τ == .bool && wt a .int && wt b .int
  | .gt a b, τ => τ == .bool && wt a .int && wt b .int
  | .ge a b, τ => τ == .bool && wt a .int && wt b .int
  | .not a, τ => τ == .bool && wt a .bool
  | .and ts, τ => τ == .bool && wtAll ts .bool
  | .or ts, τ => τ == .bool && wtAll ts .bool
  | .implies a b, τ => τ == .bool && wt a .bool && wt b .bool
  | .xor a b, τ => τ == .bool && wt a .bool && wt b .bool
def wtAll : List Term → Ty → Bool
  | [], _ => true
  | t :: ts, τ => wt t τ && wtAll ts τ
end

mutual
/-- every divisor in `t`, the second argument of a `div` or `mod`, evaluates to a non-zero integer -/
def divisorsOk : Term → Bool
  | .div a b => divisorsOk a && divisorsOk b && (match eval b with | some (.int n) => n != 0 | _ => false)
  | .mod a b => divisorsOk a && divisorsOk b && (match eval b with | some (.int n) => n != 0 | _ => false)
  | .len t => divisorsOk t
  | .concat ts => divisorsOkL ts
  | .strAt s i => divisorsOk s && divisorsOk i
  | .substr s i n => divisorsOk s && divisorsOk i && divisorsOk n
  | .prefixof a b => divisorsOk a && divisorsOk b
  | .suffixof a b => divisorsOk a && divisorsOk b
  | .contains a b => divisorsOk a && divisorsOk b
  | .indexof s t i => divisorsOk s && divisorsOk t && divisorsOk i
  | .replace s t u => divisorsOk s && divisorsOk t && divisorsOk u
  | .toInt s => divisorsOk s
  | .fromInt n => divisorsOk n
  | .toCode s => divisorsOk s
  | .isDigit s => divisorsOk s
  | .strLe a b => divisorsOk a && divisorsOk b
  | .inRe s _ => divisorsOk s
  | .add ts => divisorsOkL ts
  | .sub ts => divisorsOkL ts
  | .mul ts => divisorsOkL ts
  | .neg a => divisorsOk a
  | .abs a => divisorsOk a
  | .eq a b => divisorsOk a && divisorsOk b
  | .lt a b => divisorsOk a && divisorsOk b
  | .le a b => divisorsOk a && divisorsOk b
  | .gt a b => divisorsOk a && divisorsOk b
  | .ge a b => divisorsOk a && divisorsOk b
  | .not a => divisorsOk a
  | .and ts => divisorsOkL ts
  | .or ts => divisorsOkL ts
  | .implies a b => divisorsOk a && divisorsOk b
  | .xor a b => divisorsOk a && divisorsOk b
  | _ => true
def divisorsOkL : List Term → Bool
  | [] => true
  | t :: ts => divisorsOk t && divisorsOkL ts
end

theorem smtDiv_eq (a b : Int) : smtDiv a b = a / b := by
  unfold smtDiv
  split
  · next h => exact Int.fdiv_eq_ediv_of_nonneg a (Int.le_of_lt h)
  · next h =>
    rw [Int.fdiv_eq_ediv_of_nonneg a (Int.neg_nonneg_of_nonpos (Int.not_lt.1 h)), Int.ediv_neg, Int.neg_neg]

theorem smtMod_eq (a b : Int) : smtMod a b = a % b := by
  rw [smtMod, smtDiv_eq a b, Int.emod_def]

theorem isPrefix_iff (a b : List Char) : isPrefix a b = true ↔ a <+: b := by
  induction a generalizing b with
  | nil => simp [isPrefix]
  | cons x xs ih =>
    cases b with
    | nil => simp [isPrefix]
    | cons y ys =>
      simp [isPrefix, ih, List.cons_prefix_cons]

/-- `FirstOcc t u p r`: `r` is the first position `j ≥ p` at which `t` occurs in `u`, or `none` if there
is no such position -/
def FirstOcc (t u : List Char) (p : Nat) : Option Nat → Prop
  | some j => p ≤ j ∧ j ≤ u.length ∧ t <+: u.drop j ∧ ∀ k, p ≤ k → k < j → ¬ t <+: u.drop k
  | none => ∀ k, p ≤ k → k ≤ u.length → ¬ t <+: u.drop k

theorem firstOcc_step {t u : List Char} {p : Nat} {r : Option Nat} (hp : ¬ t <+: u.drop p)
    (h : FirstOcc t u (p + 1) r) : FirstOcc t u p r := by
  have step : ∀ k, p ≤ k → (p + 1 ≤ k → ¬ t <+: u.drop k) → ¬ t <+: u.drop k := by
    intro k hk hk'
    rcases Nat.eq_or_lt_of_le hk with rfl | hk
    · exact hp
    · exact hk' hk
  cases r with
  | some j =>
    obtain ⟨hpj, hju, hocc, hmin⟩ := h
    exact ⟨Nat.le_of_succ_le hpj, hju, hocc, fun k hk1 hk2 => step k hk1 fun hk => hmin k hk hk2⟩
  | none => exact fun k hk1 hk2 => step k hk1 fun hk => h k hk hk2

/-- the scanned string `s` is the suffix of the whole string `u` that starts at position `p`, as in every call the
model makes (`p = 0` in `strContains` and `strReplace`, `p = i` in `strIndexOf`); the answer is a position in `u` -/
theorem findFrom_firstOcc (t u s : List Char) (p : Nat) (hs : u.drop p = s) (hp : p ≤ u.length) :
    FirstOcc t u p (findFrom t s p) := by
  induction s generalizing p with
  | nil =>
    have hp : p = u.length := Nat.le_antisymm hp (List.drop_eq_nil_iff.1 hs)
    unfold findFrom
    split
    · next ht =>
      exact ⟨Nat.le_refl _, Nat.le_of_eq hp, by rw [List.isEmpty_iff.1 ht]; exact List.nil_prefix,
        fun k h1 h2 => absurd h2 (Nat.not_lt.2 h1)⟩
    · next ht =>
      intro k hk1 hk2
      obtain rfl : k = p := Nat.le_antisymm (hp ▸ hk2) hk1
      rw [hs, List.prefix_nil]
      exact mt List.isEmpty_iff.2 ht
  | cons c cs ih =>
    have hlt : p < u.length := Nat.lt_of_le_of_ne hp fun h => by rw [h, List.drop_length] at hs; cases hs
    have ih := ih (p + 1) (by rw [← List.drop_drop, hs]; rfl) hlt
    unfold findFrom
    split
    · next hpre =>
      exact ⟨Nat.le_refl _, hp, hs ▸ (isPrefix_iff ..).1 hpre, fun k h1 h2 => absurd h2 (Nat.not_lt.2 h1)⟩
    · next hpre => exact firstOcc_step (hs ▸ mt (isPrefix_iff ..).2 hpre) ih

theorem eq_take_append_of_prefix_drop {t s : List Char} {j : Nat} (h : t <+: s.drop j) :
    s = s.take j ++ t ++ s.drop (j + t.length) := by
  obtain ⟨v, hv⟩ := h
  rw [← List.drop_drop, ← hv, List.drop_left, List.append_assoc, hv, List.take_append_drop]

theorem strSubstr_eq (w : List Char) (m n : Int) :
    strSubstr w m n = if 0 ≤ m ∧ m < w.length ∧ 0 < n then (w.drop m.toNat).take n.toNat else [] := by
  unfold strSubstr
  by_cases h : 0 ≤ m ∧ m < w.length ∧ 0 < n
  · rw [if_pos h, if_neg (by simp only [Bool.or_eq_true, decide_eq_true_eq]; omega)]
  · rw [if_neg h, if_pos (by simp only [Bool.or_eq_true, decide_eq_true_eq]; omega)]

/-- SMT-LIB defines `str.at` so -/
theorem strAtF_eq_substr (w : List Char) (m : Int) : strAtF w m = strSubstr w m 1 := by
  unfold strAtF strSubstr
  rw [show decide ((1 : Int) ≤ 0) = false from rfl, Bool.or_false]
  rfl

def sortOf : Term → Ty
  | .strLit _ | .concat _ | .strAt .. | .substr .. | .replace .. | .fromInt _ => .str
  | .intLit _ | .len _ | .indexof .. | .toInt _ | .toCode _ | .add _ | .sub _ | .mul _
  | .div .. | .mod .. | .neg _ | .abs _ => .int
  | _ => .bool

theorem wt_sortOf {t : Term} {τ : Ty} (h : wt t τ = true) : τ = sortOf t := by
  -- `wt t τ` is `τ == ρ && c₁ && … && cₙ` with `ρ = sortOf t`; the operators are grouped by `n`, the depth of
  -- `τ == ρ` in the conjunction, which `&&` nests to the left
  cases t
  all_goals unfold wt at h
  case strLit | intLit | boolLit => exact eq_of_beq h
  case len | concat | toInt | fromInt | toCode | isDigit | inRe | add | mul | neg | abs | eq | not | and | or =>
    -- `rw` would, after rewriting `h`, try `rfl` on the goal, in vain on every arm
    rewrite [Bool.and_eq_true] at h
    exact eq_of_beq h.1
  case strAt | prefixof | suffixof | contains | strLe | sub | div | mod | lt | le | gt | ge | implies | xor =>
    rewrite [Bool.and_eq_true, Bool.and_eq_true] at h
    exact eq_of_beq h.1.1
  case substr | indexof | replace =>
    rewrite [Bool.and_eq_true, Bool.and_eq_true, Bool.and_eq_true] at h
    exact eq_of_beq h.1.1.1

theorem eval_sortOf {t : Term} {v : Val} (he : eval t = some v) : valTy v = sortOf t := by
  -- every arm of `eval` builds its value with the constructor of `sortOf t`, or is `none`; the operators are
  -- grouped by the shape of the arm
  cases t
  all_goals unfold eval at he
  case strLit | intLit | boolLit => cases he; rfl
  case concat | add | mul | and | or =>
    obtain ⟨_, _, rfl⟩ := Option.map_eq_some_iff.mp he
    rfl
  case div | mod =>
    split at he
    · split at he
      · cases he
      · cases he; rfl
    · cases he
  case toCode | isDigit =>
    split at he
    · cases he; rfl
    · cases he; rfl
    · cases he
  -- what remains is one `match` on the values of the arguments with one arm that answers
  all_goals
    split at he
    · cases he; rfl
    · cases he

theorem eval_sorted {t : Term} {σ : Ty} (h : wt t σ = true) (hv : (eval t).isSome = true) :
    ∃ v, eval t = some v ∧ valTy v = σ :=
  have ⟨v, hv⟩ := Option.isSome_iff_exists.mp hv
  ⟨v, hv, (eval_sortOf hv).trans (wt_sortOf h).symm⟩

/-- with `σ` a constructor, `obtain ⟨x, hx⟩` yields the payload whatever the sort is -/
theorem eval_canon {t : Term} {σ : Ty} (h : wt t σ = true) (hv : (eval t).isSome = true) :
    match σ with
    | .str => ∃ s, eval t = some (.str s)
    | .int => ∃ n, eval t = some (.int n)
    | .bool => ∃ b, eval t = some (.bool b) := by
  obtain ⟨v, hv, rfl⟩ := eval_sorted h hv
  cases v <;> exact ⟨_, hv⟩

/-- the induction hypothesis of `eval_isSome`; the sort is quantified because the arguments of an operator
have other sorts than the term -/
abbrev Evaluates (t : Term) : Prop := ∀ τ, wt t τ = true → divisorsOk t = true → (eval t).isSome = true

/-- `evL`, `inj`, `σ` are `evalStrs`, `.str`, `.str`, or the same for `Int` and `Bool`; `nil` and `cons` are the two
equations of `evL` -/
theorem evalList_of {α : Type} {σ : Ty} {inj : α → Val} {evL : List Term → Option (List α)} (nil : evL [] = some [])
    (cons : ∀ {t ts x xs}, eval t = some (inj x) → evL ts = some xs → evL (t :: ts) = some (x :: xs))
    (canon : ∀ {t}, wt t σ = true → (eval t).isSome = true → ∃ x, eval t = some (inj x))
    {ts : List Term} (ih : ∀ t ∈ ts, Evaluates t) (h : wtAll ts σ = true) (hd : divisorsOkL ts = true) :
    ∃ xs, evL ts = some xs := by
  induction ts with
  | nil => exact ⟨[], nil⟩
  | cons t ts ihts =>
    obtain ⟨ht, hts⟩ := Bool.and_eq_true_iff.1 h
    obtain ⟨dt, dts⟩ := Bool.and_eq_true_iff.1 hd
    obtain ⟨x, hx⟩ := canon ht (ih t List.mem_cons_self _ ht dt)
    obtain ⟨xs, hxs⟩ := ihts (fun t ht => ih t (List.mem_cons_of_mem _ ht)) hts dts
    exact ⟨_, cons hx hxs⟩

theorem evalStrs_of {ts : List Term} : (∀ t ∈ ts, Evaluates t) → wtAll ts .str = true → divisorsOkL ts = true →
    ∃ ss, evalStrs ts = some ss :=
  evalList_of (inj := .str) rfl (fun hx hs => by rw [evalStrs, hx, hs]) eval_canon

theorem evalInts_of {ts : List Term} : (∀ t ∈ ts, Evaluates t) → wtAll ts .int = true → divisorsOkL ts = true →
    ∃ ss, evalInts ts = some ss :=
  evalList_of (inj := .int) rfl (fun hx hs => by rw [evalInts, hx, hs]) eval_canon

theorem evalBools_of {ts : List Term} : (∀ t ∈ ts, Evaluates t) → wtAll ts .bool = true → divisorsOkL ts = true →
    ∃ ss, evalBools ts = some ss :=
  evalList_of (inj := .bool) rfl (fun hx hs => by rw [evalBools, hx, hs]) eval_canon

theorem eval_isSome (t : Term) : Evaluates t := by
  induction t using Term.rec (motive_2 := fun ts => ∀ t ∈ ts, Evaluates t)
  case nil _ h => cases h
  case cons iht ihts _ h =>
    rcases List.mem_cons.mp h with rfl | h
    · exact iht
    · exact ihts _ h
  all_goals
    intro τ h hd
    unfold wt at h
    unfold divisorsOk at hd
    unfold eval
  -- the operators are grouped by the number of arguments and by what the arm of `eval` does once they have
  -- values; inside a group they differ in the sorts of the arguments, which `eval_canon` absorbs, and in
  -- the function applied to the values, which plays no part
  case strLit | intLit | boolLit => rfl
  case len a ih | toInt a ih | inRe a _ ih | fromInt a ih | neg a ih | abs a ih | not a ih =>
    obtain ⟨-, ha⟩ := Bool.and_eq_true_iff.1 h
    obtain ⟨x, hx⟩ := eval_canon ha (ih _ ha hd)
    -- `rw` would try a `rfl` of its own, with reducible unfolding only, before the one that works
    rewrite [hx]
    rfl
  case toCode a ih | isDigit a ih =>
    obtain ⟨-, ha⟩ := Bool.and_eq_true_iff.1 h
    obtain ⟨x, hx⟩ := eval_canon ha (ih _ ha hd)
    rewrite [hx]
    -- these two answer differently on strings of length one
    rcases x with _ | ⟨c, _ | _⟩ <;> rfl
  case prefixof a b iha ihb | suffixof a b iha ihb | contains a b iha ihb | strLe a b iha ihb
      | lt a b iha ihb | le a b iha ihb | gt a b iha ihb | ge a b iha ihb
      | implies a b iha ihb | xor a b iha ihb | strAt a b iha ihb =>
    simp only [Bool.and_eq_true] at h hd
    obtain ⟨⟨-, ha⟩, hb⟩ := h
    obtain ⟨da, db⟩ := hd
    obtain ⟨x, hx⟩ := eval_canon ha (iha _ ha da)
    obtain ⟨y, hy⟩ := eval_canon hb (ihb _ hb db)
    rewrite [hx, hy]
    rfl
  case div a b iha ihb | mod a b iha ihb =>
    simp only [Bool.and_eq_true] at h hd
    obtain ⟨⟨-, ha⟩, hb⟩ := h
    obtain ⟨⟨da, db⟩, hz⟩ := hd
    obtain ⟨x, hx⟩ := eval_canon ha (iha _ ha da)
    obtain ⟨y, hy⟩ := eval_canon hb (ihb _ hb db)
    rw [hy] at hz
    rewrite [hx, hy]
    dsimp only at hz ⊢
    rw [if_neg (mt beq_iff_eq.1 (bne_iff_ne.1 hz))]
    rfl
  case eq a b iha ihb =>
    simp only [Bool.and_eq_true, Bool.or_eq_true] at h hd
    obtain ⟨da, db⟩ := hd
    -- `=` is typed at each of the three sorts, and evaluates whatever the sort of the two values
    have ⟨σ, ha, hb⟩ : ∃ σ, wt a σ = true ∧ wt b σ = true := by
      rcases h.2 with (h | h) | h <;> exact ⟨_, h⟩
    obtain ⟨x, hx⟩ := Option.isSome_iff_exists.mp (iha _ ha da)
    obtain ⟨y, hy⟩ := Option.isSome_iff_exists.mp (ihb _ hb db)
    rewrite [hx, hy]
    rfl
  case substr a b c iha ihb ihc | indexof a b c iha ihb ihc | replace a b c iha ihb ihc =>
    simp only [Bool.and_eq_true] at h hd
    obtain ⟨⟨⟨-, ha⟩, hb⟩, hc⟩ := h
    obtain ⟨⟨da, db⟩, dc⟩ := hd
    obtain ⟨x, hx⟩ := eval_canon ha (iha _ ha da)
    obtain ⟨y, hy⟩ := eval_canon hb (ihb _ hb db)
    obtain ⟨z, hz⟩ := eval_canon hc (ihc _ hc dc)
    rewrite [hx, hy, hz]
    rfl
  case concat ts ih =>
    obtain ⟨s, hs⟩ := evalStrs_of ih (Bool.and_eq_true_iff.1 h).2 hd
    rewrite [hs]
    rfl
  case add ts ih | mul ts ih =>
    obtain ⟨s, hs⟩ := evalInts_of ih (Bool.and_eq_true_iff.1 h).2 hd
    rewrite [hs]
    rfl
  case and ts ih | or ts ih =>
    obtain ⟨s, hs⟩ := evalBools_of ih (Bool.and_eq_true_iff.1 h).2 hd
    rewrite [hs]
    rfl
  case sub ts ih =>
    simp only [Bool.and_eq_true] at h
    obtain ⟨⟨-, hne⟩, hts⟩ := h
    obtain ⟨s, hs⟩ := evalInts_of ih hts hd
    rewrite [hs]
    -- `eval` wants a first number: `ts` is not empty (`hne`), and `evalInts` keeps the length
    cases s with
    | cons n ns => rfl
    | nil =>
      cases ts with
      | nil => cases hne
      | cons t ts =>
        unfold evalInts at hs
        split at hs <;> cases hs

theorem evalStrsDef : ∀ (ts : List Term), wtAll ts .str = true → divisorsOkL ts = true →
    ∃ ss, evalStrs ts = some ss := fun _ => evalStrs_of fun t _ => eval_isSome t

theorem evalIntsDef : ∀ (ts : List Term), wtAll ts .int = true → divisorsOkL ts = true →
    ∃ ss, evalInts ts = some ss := fun _ => evalInts_of fun t _ => eval_isSome t

theorem evalBoolsDef : ∀ (ts : List Term), wtAll ts .bool = true → divisorsOkL ts = true →
    ∃ ss, evalBools ts = some ss := fun _ => evalBools_of fun t _ => eval_isSome t

end IslaVerif.C05
