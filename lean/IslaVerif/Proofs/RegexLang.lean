import IslaVerif.Model.Regex
/-
The denotation of the regex AST, SMT-LIB RegLan semantics: the trusted specification that the matcher and the
C05/C15 theorems refer to.
-/
namespace IslaVerif.Re

mutual
/-- `w ∈ L(r)` -/
def Lang : Re → List Char → Prop
  | str s, w => w = s
  | range lo hi, w => ∃ c, w = [c] ∧ rangeHas lo hi c = true
  | allchar, w => ∃ c, w = [c]
  | all, _ => True
  | none, _ => False
  | union rs, w => LangAny rs w
  | concat rs, w => LangCat rs w
  | star r, w => ∃ ws : List (List Char), w = ws.flatten ∧ ∀ x ∈ ws, Lang r x
  | plus r, w => ∃ ws : List (List Char), ws ≠ [] ∧ w = ws.flatten ∧ ∀ x ∈ ws, Lang r x
  | opt r, w => w = [] ∨ Lang r w
  | loop r lo hi, w => ∃ ws : List (List Char), lo ≤ ws.length ∧ ws.length ≤ hi ∧ w = ws.flatten ∧ ∀ x ∈ ws, Lang r x
  | comp r, w => ¬ Lang r w
  | inter rs, w => LangAll rs w
  | diff a b, w => Lang a w ∧ ¬ Lang b w
def LangAny : List Re → List Char → Prop
  | [], _ => False
  | r :: rs, w => Lang r w ∨ LangAny rs w
def LangAll : List Re → List Char → Prop
  | [], _ => True
  | r :: rs, w => Lang r w ∧ LangAll rs w
/-- concatenation of the languages, in order -/
def LangCat : List Re → List Char → Prop
  | [], w => w = []
  | r :: rs, w => ∃ u v, w = u ++ v ∧ Lang r u ∧ LangCat rs v
end

end IslaVerif.Re
