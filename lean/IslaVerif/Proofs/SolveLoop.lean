import IslaVerif.Model.SolveLoop
/-
`loop` is taken apart once, by the case principle `loop_cases`: one hypothesis for each of its five exits and
one for the iteration that goes round; every fact about a single call is an instance.  A call sequence is
handled by absorbing sets (`run_absorbing`): a set of (state, remaining events) that no call leaves and in
which every call answers in `Q`.  StopIteration enters `Exhausted`, TimeoutError enters `Stuck`; stickiness
(`run_sticky`) is: the first such outcome enters the set, the rest of the run stays in it.
-/
namespace IslaVerif.SolveLoop

/-- the clock readings of the loop events never go back (time.time() is read in program order) -/
def Mono : List Evt → Prop
  | [] => True
  | e :: es => (∀ e' ∈ es, e.now ≤ e'.now) ∧ Mono es

/-- a state in which `solve()` has nothing left: empty queue, no pending solution -/
def Exhausted (s : St) : Prop := s.qlen = 0 ∧ s.sols = []

/-- the timeout test of one iteration: the condition of the innermost `if` of `loop` (Model/SolveLoop.lean),
`time.time() - self.start_time > self.timeout` when both are set -/
def expired (T : Option Int) (s : St) (e : Evt) : Bool :=
  match T, s.start with
  | some T, some t0 => decide (e.now - t0 > T)
  | _, _ => false

theorem loop_q0 (T : Option Int) (s : St) (evts : List Evt) (hq : s.qlen = 0) :
    loop T s evts = match s.sols with
      | x :: rest => (.tree x, { s with sols := rest }, evts)
      | [] => (.stop, s, evts) := by
  rw [loop.eq_def]
  dsimp only
  rw [if_pos hq]; rfl

theorem loop_nil (T : Option Int) (s : St) (hq : s.qlen ≠ 0) :
    loop T s [] = (.outOfEvents, s, []) := by
  rw [loop.eq_def]
  dsimp only
  rw [if_neg hq]

theorem loop_cons (T : Option Int) (s : St) (e : Evt) (rest : List Evt) (hq : s.qlen ≠ 0) :
    loop T s (e :: rest) =
      if expired T s e = true then (.timeout, s, rest)
      else match s.sols with
        | x :: more => (.tree x, { s with sols := more }, rest)
        | [] => loop T { s with qlen := e.qafter, sols := e.found } rest := by
  rw [loop.eq_def]
  dsimp only
  rw [if_neg hq]; rfl

theorem loop_cases (T : Option Int) (P : St → List Evt → Outcome × St × List Evt → Prop)
    (h1 : ∀ s evts x r, s.qlen = 0 → s.sols = x :: r → P s evts (.tree x, { s with sols := r }, evts))
    (h2 : ∀ s evts, s.qlen = 0 → s.sols = [] → P s evts (.stop, s, evts))
    (h3 : ∀ s, s.qlen ≠ 0 → P s [] (.outOfEvents, s, []))
    (h4 : ∀ s e rest, s.qlen ≠ 0 → expired T s e = true → P s (e :: rest) (.timeout, s, rest))
    (h5 : ∀ s e rest x more, s.qlen ≠ 0 → expired T s e = false → s.sols = x :: more →
      P s (e :: rest) (.tree x, { s with sols := more }, rest))
    (h6 : ∀ s e rest r, s.qlen ≠ 0 → expired T s e = false → s.sols = [] →
      P { s with qlen := e.qafter, sols := e.found } rest r → P s (e :: rest) r) :
    ∀ s evts, P s evts (loop T s evts) := by
  intro s evts
  fun_induction loop T s evts with
  | case1 s evts hq x r hs => exact h1 s evts x r hq hs
  | case2 s evts hq hs => exact h2 s evts hq hs
  | case3 s hq => exact h3 s hq
  | case4 s hq e rest hx => exact h4 s e rest hq hx
  | case5 s hq e rest hx x more hs => exact h5 s e rest x more hq (Bool.eq_false_iff.2 hx) hs
  | case6 s hq e rest hx hs ih => exact h6 s e rest _ hq (Bool.eq_false_iff.2 hx) hs ih

theorem expired_true {T : Option Int} {s : St} {e : Evt} (h : expired T s e = true) :
    ∃ T0 t0, T = some T0 ∧ s.start = some t0 ∧ e.now - t0 > T0 := by
  unfold expired at h
  split at h
  · exact ⟨_, _, rfl, ‹_›, of_decide_eq_true h⟩
  · cases h

theorem expired_of {T : Option Int} {s : St} {e : Evt} {T0 t0 : Int}
    (hT : T = some T0) (hs : s.start = some t0) (h : e.now - t0 > T0) : expired T s e = true := by
  subst hT
  unfold expired
  rw [hs]
  exact decide_eq_true h

theorem expired_none (s : St) (e : Evt) : expired none s e = false := rfl

/-- the `let s'` of `solveCall`: `start_time` is taken at the first call for which a timeout is configured -/
def pre (T : Option Int) (c : Int) (s : St) : St :=
  if T.isSome && s.start.isNone then { s with start := some c } else s

theorem solveCall_eq (T : Option Int) (c : Int) (s : St) (evts : List Evt) :
    solveCall T c s evts = loop T (pre T c s) evts := rfl

theorem pre_qlen (T : Option Int) (c : Int) (s : St) : (pre T c s).qlen = s.qlen := by
  unfold pre
  split <;> rfl

theorem pre_sols (T : Option Int) (c : Int) (s : St) : (pre T c s).sols = s.sols := by
  unfold pre
  split <;> rfl

theorem pre_of_start (T : Option Int) (c : Int) (s : St) (t0 : Int) (h : s.start = some t0) :
    pre T c s = s := by
  unfold pre
  rw [h, Option.isNone_some, Bool.and_false, if_neg Bool.false_ne_true]

theorem run_cons (T : Option Int) (s : St) (c : Int) (cs : List Int) (evts : List Evt) :
    run T s (c :: cs) evts =
      (solveCall T c s evts).1 ::
        run T (solveCall T c s evts).2.1 cs (solveCall T c s evts).2.2 := rfl

theorem loop_stop (T : Option Int) : ∀ s evts,
    (loop T s evts).1 = .stop → Exhausted (loop T s evts).2.1 := by
  apply loop_cases T (fun _ _ r => r.1 = .stop → Exhausted r.2.1)
  · intro s evts x r _ _ h; cases h
  · intro s evts hq hs _; exact ⟨hq, hs⟩
  · intro s _ h; cases h
  · intro s e rest _ _ h; cases h
  · intro s e rest x more _ _ _ h; cases h
  · intro s e rest r _ _ _ ih; exact ih

theorem loop_exhausted (T : Option Int) (s : St) (evts : List Evt) (h : Exhausted s) :
    loop T s evts = (.stop, s, evts) := by
  rw [loop_q0 T s evts h.1, h.2]

theorem run_absorbing {T : Option Int} {I : St → List Evt → Prop} {Q : Outcome → Prop}
    (absorb : ∀ c s evts, I s evts →
      Q (solveCall T c s evts).1 ∧ I (solveCall T c s evts).2.1 (solveCall T c s evts).2.2)
    {cs : List Int} {s : St} {evts : List Evt} (start : I s evts) {o : Outcome}
    (mem : o ∈ run T s cs evts) : Q o := by
  induction cs generalizing s evts with
  | nil => nomatch mem
  | cons c cs ih =>
    rw [run_cons] at mem
    rcases List.mem_cons.1 mem with rfl | mem
    · exact (absorb c s evts start).1
    · exact ih (absorb c s evts start).2 mem

/-- `Pre` is a property of the event stream that every call keeps and that `entry` may use (the monotone clock) -/
theorem run_sticky {T : Option Int} {o0 : Outcome} {Q : Outcome → Prop} {Pre : List Evt → Prop}
    {I : St → List Evt → Prop} (first : Q o0)
    (keep : ∀ c s evts, Pre evts → Pre (solveCall T c s evts).2.2)
    (entry : ∀ c s evts, Pre evts → (solveCall T c s evts).1 = o0 →
      I (solveCall T c s evts).2.1 (solveCall T c s evts).2.2)
    (absorb : ∀ c s evts, I s evts →
      Q (solveCall T c s evts).1 ∧ I (solveCall T c s evts).2.1 (solveCall T c s evts).2.2)
    {cs : List Int} {s : St} {evts : List Evt} {i j : Nat} {o : Outcome} (start : Pre evts)
    (hi : (run T s cs evts)[i]? = some o0) (hij : i ≤ j) (hj : (run T s cs evts)[j]? = some o) : Q o := by
  induction cs generalizing s evts i j with
  | nil => cases hi
  | cons c cs ih =>
    rw [run_cons] at hi hj
    cases i with
    | zero =>
      have h0 := entry c s evts start (Option.some.inj hi)
      cases j with
      | zero =>
        rw [hi] at hj
        exact Option.some.inj hj ▸ first
      | succ j => exact run_absorbing absorb h0 (List.mem_of_getElem? hj)
    | succ i =>
      cases j with
      | zero => cases hij
      | succ j => exact ih (keep c s evts start) hi (Nat.le_of_succ_le_succ hij) hj

theorem expired_later {T : Option Int} {s : St} {e e' : Evt} (h : expired T s e = true)
    (hle : e.now ≤ e'.now) : expired T s e' = true := by
  obtain ⟨T0, t0, hT, hs, hgt⟩ := expired_true h
  exact expired_of hT hs (by omega)

/-- the situation after a TimeoutError, or after the recorded trace has run out with a non-empty queue -/
def Stuck (T : Option Int) (s : St) (evts : List Evt) : Prop :=
  s.qlen ≠ 0 ∧ ∀ e ∈ evts, expired T s e = true

theorem loop_mono (T : Option Int) : ∀ s evts, Mono evts → Mono (loop T s evts).2.2 := by
  apply loop_cases T (fun _ evts r => Mono evts → Mono r.2.2)
  · intro s evts x r _ _ h; exact h
  · intro s evts _ _ h; exact h
  · intro s _ h; exact h
  · intro s e rest _ _ h; exact h.2
  · intro s e rest x more _ _ _ h; exact h.2
  · intro s e rest r _ _ _ ih h; exact ih h.2

theorem loop_timeout (T : Option Int) : ∀ s evts, Mono evts → (loop T s evts).1 = .timeout →
    Stuck T (loop T s evts).2.1 (loop T s evts).2.2 := by
  apply loop_cases T (fun _ evts r => Mono evts → r.1 = .timeout → Stuck T r.2.1 r.2.2)
  · intro s evts x r _ _ _ h; cases h
  · intro s evts _ _ _ h; cases h
  · intro s _ _ h; cases h
  · intro s e rest hq hx hm _
    exact ⟨hq, fun e' he' => expired_later hx (hm.1 e' he')⟩
  · intro s e rest x more _ _ _ _ h; cases h
  · intro s e rest r _ _ _ ih hm h; exact ih hm.2 h

theorem stuck_call (T : Option Int) (c : Int) (s : St) (evts : List Evt) (h : Stuck T s evts) :
    ((solveCall T c s evts).1 = .timeout ∨ (solveCall T c s evts).1 = .outOfEvents) ∧
      Stuck T (solveCall T c s evts).2.1 (solveCall T c s evts).2.2 := by
  cases evts with
  | nil =>
    have hq : (pre T c s).qlen ≠ 0 := by rw [pre_qlen]; exact h.1
    rw [solveCall_eq, loop_nil T _ hq]
    exact ⟨.inr rfl, hq, List.forall_mem_nil _⟩
  | cons e rest =>
    have hx := h.2 e List.mem_cons_self
    obtain ⟨_, t0, _, hs, _⟩ := expired_true hx
    rw [solveCall_eq, pre_of_start T c s t0 hs, loop_cons T s e rest h.1, if_pos hx]
    exact ⟨.inl rfl, h.1, fun e' he' => h.2 e' (List.mem_cons_of_mem _ he')⟩

theorem loop_no_timeout : ∀ s evts, (loop none s evts).1 ≠ .timeout := by
  apply loop_cases none (fun _ _ r => r.1 ≠ .timeout)
  · intro s evts x r _ _ h; cases h
  · intro s evts _ _ h; cases h
  · intro s _ h; cases h
  · intro s e rest _ hx _
    rw [expired_none] at hx
    cases hx
  · intro s e rest x more _ _ _ h; cases h
  · intro s e rest r _ _ _ ih; exact ih

theorem treesOf_cons (o : Outcome) (os : List Outcome) :
    treesOf (o :: os) = treesOf [o] ++ treesOf os := by
  cases o <;> rfl

theorem loop_trees (T : Option Int) : ∀ s evts,
    List.Sublist
      (treesOf [(loop T s evts).1] ++
        ((loop T s evts).2.1.sols ++ (loop T s evts).2.2.flatMap (·.found)))
      (s.sols ++ evts.flatMap (·.found)) := by
  apply loop_cases T (fun s evts r => List.Sublist
    (treesOf [r.1] ++ (r.2.1.sols ++ r.2.2.flatMap (·.found))) (s.sols ++ evts.flatMap (·.found)))
  · intro s evts x r _ hs
    rw [hs]; exact List.Sublist.refl _
  · intro s evts _ _; exact List.Sublist.refl _
  · intro s _; exact List.Sublist.refl _
  · intro s e rest _ _
    rw [List.flatMap_cons]
    exact (List.sublist_append_right _ _).append_left s.sols
  · intro s e rest x more _ _ hs
    rw [hs, List.flatMap_cons]
    exact (List.sublist_append_right _ _).append_left (x :: more)
  · intro s e rest r _ _ hs ih
    rw [hs, List.flatMap_cons]
    exact ih

end IslaVerif.SolveLoop
