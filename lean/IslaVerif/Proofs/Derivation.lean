import IslaVerif.Proofs.Recognizer
import IslaVerif.Proofs.Grammar
/-
The position-based derivation relation `Der` of the recognizer against derivation trees: `Der g s A 0 |s|`
iff some valid closed tree rooted in `A` yields `s` (`InLang`, the notion C10 talks about). From a tree, the
window of `s` it covers splits along the yields of the children; from a derivation, the children are built
left to right and their windows join.
-/
namespace IslaVerif.C10
open Grammar Rec

/-- `s` is in the language of nonterminal `A`: some valid closed derivation tree rooted in `A` yields it -/
def InLang (g : Grammar) (A : String) (s : List Char) : Prop :=
  ∃ t : DTree, t.valid g = true ∧ t.closed = true ∧ t.sym = A ∧ t.yieldC g = s

theorem isNT_of_alts {g : Grammar} {X : String} {as} (h : alts g X = some as) : isNT g X = true :=
  Option.isSome_iff_exists.2 ⟨as, h⟩

theorem yieldC_node_NT {g : Grammar} {n : Nat} {A : String} (hA : isNT g A = true) (ks : List DTree) :
    DTree.yieldC g (.node n A ks) = DTree.yieldCL g ks := by
  cases ks with
  | nil => rw [DTree.yieldC, if_pos hA]; rfl
  | cons k ks => rfl

theorem yieldC_terminal {g : Grammar} (t : DTree) (hv : t.valid g = true) (ho : t.hasOpen = false)
    (hnt : isNT g t.sym = false) : t.yieldC g = t.sym.toList := by
  cases t with
  | openLeaf _ _ => cases ho
  | node n X ks =>
    rw [DTree.sym] at hnt ⊢
    rw [DTree.valid, DTree.not_isNT_alts hnt, List.isEmpty_iff] at hv
    rw [hv, DTree.yieldC, hnt]
    rfl

theorem take_split {l y1 y2 : List Char} (h : l.take (y1 ++ y2).length = y1 ++ y2) :
    l.take y1.length = y1 ∧ (l.drop y1.length).take y2.length = y2 := by
  rw [← List.take_append_drop (y1 ++ y2).length l, h, List.append_assoc, List.take_left, List.drop_left,
    List.take_left]
  exact ⟨rfl, rfl⟩

theorem take_join {s : List Char} {i k j : Nat} (hik : i ≤ k) (hkj : k ≤ j) :
    (s.drop i).take (k - i) ++ (s.drop k).take (j - k) = (s.drop i).take (j - i) := by
  obtain ⟨a, rfl⟩ := Nat.exists_eq_add_of_le hik
  obtain ⟨b, rfl⟩ := Nat.exists_eq_add_of_le hkj
  rw [Nat.add_sub_cancel_left, Nat.add_sub_cancel_left, Nat.add_assoc, Nat.add_sub_cancel_left,
    List.take_add, List.drop_drop]

/-- the ε-realisation `[("", [])]` of `kidsMatch` yields nothing, as long as `""` is a terminal -/
theorem yieldCL_eps {g : Grammar} (h0 : isNT g "" = false) {ks : List DTree} (hm : ks.map DTree.sym = [""])
    (hv : DTree.validL g ks = true) (ho : DTree.hasOpenL ks = false) : DTree.yieldCL g ks = [] := by
  obtain ⟨k, rfl, hsym⟩ := List.map_eq_singleton_iff.1 hm
  rw [DTree.validL, DTree.validL, Bool.and_true] at hv
  rw [DTree.hasOpenL, DTree.hasOpenL, Bool.or_false] at ho
  rw [DTree.yieldCL, DTree.yieldCL, yieldC_terminal k hv ho (hsym ▸ h0), hsym]
  rfl

mutual
theorem der_of_tree (g : Grammar) (h0 : isNT g "" = false) (s : List Char) :
    ∀ (t : DTree) (i : Nat), t.valid g = true → t.hasOpen = false → isNT g t.sym = true →
      (s.drop i).take (t.yieldC g).length = t.yieldC g →
      Der g s t.sym i (i + (t.yieldC g).length)
  | .openLeaf _ _ => fun _ _ ho => nomatch ho
  | .node n A ks => fun i hv ho hnt hy => by
    rw [DTree.sym] at hnt ⊢
    rw [yieldC_node_NT hnt] at hy ⊢
    rw [DTree.hasOpen] at ho
    obtain ⟨as, has⟩ : ∃ as, alts g A = some as := Option.isSome_iff_exists.1 hnt
    obtain ⟨hA, hvl⟩ := DTree.valid_node_iff.1 hv
    obtain ⟨alt, halt, hkm⟩ := hA.resolve_left fun h => nomatch has.symm.trans h.1
    rw [has] at halt
    have hvl := (DTree.validL_iff g ks).2 hvl
    rcases kidsMatch_iff.1 hkm with hm | ⟨rfl, hm⟩
    · exact .mk has halt (derSeq_of_kids_aux g h0 s ks alt i hm hvl ho hy)
    · rw [yieldCL_eps h0 hm hvl ho]
      exact .mk has halt .nil
theorem derSeq_of_kids_aux (g : Grammar) (h0 : isNT g "" = false) (s : List Char) :
    ∀ (ks : List DTree) (alt : List String) (i : Nat), ks.map DTree.sym = alt →
      DTree.validL g ks = true → DTree.hasOpenL ks = false →
      (s.drop i).take (DTree.yieldCL g ks).length = DTree.yieldCL g ks →
      DerSeq g s alt i (i + (DTree.yieldCL g ks).length)
  | [] => fun _ i hm _ _ _ => hm ▸ .nil
  | k :: ks => fun _ i hm hv ho hy => by
    subst hm
    rw [DTree.validL, Bool.and_eq_true] at hv
    rw [DTree.hasOpenL, Bool.or_eq_false_iff] at ho
    rw [DTree.yieldCL] at hy ⊢
    obtain ⟨hy1, hy2⟩ := take_split hy
    rw [List.drop_drop] at hy2
    have ih := derSeq_of_kids_aux g h0 s ks _ (i + (k.yieldC g).length) rfl hv.2 ho.2 hy2
    rw [List.length_append, ← Nat.add_assoc]
    cases hnt : isNT g k.sym with
    | true => exact .consN hnt (der_of_tree g h0 s k i hv.1 ho.1 hnt hy1) ih
    | false =>
      rw [yieldC_terminal k hv.1 ho.1 hnt] at hy1 ih ⊢
      exact .consT hnt (termAt_iff.2 ⟨rfl, hy1⟩) ih
end

/-- the hypothesis `isNT g "" = false` of `der_of_tree` (and so of `der_iff_inLang`) cannot be dropped:
if `""` is a nonterminal, the ε-realisation `[node _ "" …]` of `kidsMatch` may carry a non-empty yield -/
theorem der_of_tree_counterexample :
    ∃ (g : Grammar) (A : String) (s : List Char),
      isNT g A = true ∧ InLang g A s ∧ ¬ Der g s A 0 s.length := by
  refine ⟨[("<a>", [[]]), ("", [["x"]])], "<a>", ['x'], by decide +kernel,
    ⟨.node 0 "<a>" [.node 0 "" [.node 0 "x" []]], by decide +kernel, by decide +kernel, rfl,
      by decide +kernel⟩, ?_⟩
  rintro ⟨has, halt, hs⟩
  -- the only alternative of `<a>` is the empty one, and it derives the empty window only
  cases has.symm.trans (show alts _ "<a>" = some [[]] by decide +kernel)
  cases List.mem_singleton.1 halt
  cases hs

theorem inLang_of_kids {g : Grammar} {A : String} {as alt} {w : List Char} (has : alts g A = some as)
    (halt : alt ∈ as) : (∃ ks : List DTree, ks.map DTree.sym = alt ∧ DTree.validL g ks = true ∧
      DTree.hasOpenL ks = false ∧ DTree.yieldCL g ks = w) → InLang g A w := by
  rintro ⟨ks, hm, hv, ho, hy⟩
  refine ⟨.node 0 A ks, ?_, ?_, rfl, ?_⟩
  · exact DTree.valid_node_iff.2
      ⟨Or.inr ⟨alt, has ▸ halt, kidsMatch_iff.2 (Or.inl hm)⟩, (DTree.validL_iff g ks).1 hv⟩
  · rw [DTree.closed_iff, DTree.hasOpen]
    exact ho
  · rw [yieldC_node_NT (isNT_of_alts has)]; exact hy

theorem kids_of_derSeq_aux (g : Grammar) (s : List Char) :
    ∀ {alt i j}, DerSeq g s alt i j → i ≤ s.length →
      ∃ ks : List DTree, ks.map DTree.sym = alt ∧ DTree.validL g ks = true ∧
        DTree.hasOpenL ks = false ∧ DTree.yieldCL g ks = (s.drop i).take (j - i) := by
  intro alt i j h
  induction h using DerSeq.rec
    (motive_1 := fun A i j _ => i ≤ s.length → InLang g A ((s.drop i).take (j - i))) with
  | mk has halt _ ih hi => exact inLang_of_kids has halt (ih hi)
  | nil => exact fun _ => ⟨[], rfl, rfl, rfl, by rw [Nat.sub_self, List.take_zero]; rfl⟩
  | @consT X rest i k j hnt ht hr ih =>
    intro hi
    have h1 := termAt_bounds ht hi
    have h2 := derSeq_bounds hr h1.2
    obtain ⟨ks, hm, hv, ho, hy⟩ := ih h1.2
    obtain ⟨rfl, htk⟩ := termAt_iff.1 ht
    have hleaf : (DTree.node 0 X []).valid g = true :=
      DTree.valid_node_iff.2 ⟨Or.inl ⟨DTree.not_isNT_alts hnt, rfl⟩, nofun⟩
    have hsym : (DTree.node 0 X [] :: ks).map DTree.sym = X :: rest := congrArg (X :: ·) hm
    have hval : DTree.validL g (.node 0 X [] :: ks) = true := Bool.and_eq_true_iff.2 ⟨hleaf, hv⟩
    have hopen : DTree.hasOpenL (.node 0 X [] :: ks) = false := Bool.or_eq_false_iff.2 ⟨rfl, ho⟩
    refine ⟨_, hsym, hval, hopen, ?_⟩
    rw [← take_join h1.1 h2.1, Nat.add_sub_cancel_left, htk, DTree.yieldCL, DTree.yieldC, hnt, hy]
    rfl
  | @consN X rest i k j hnt hd hr ih1 ih2 =>
    intro hi
    have h1 := der_bounds hd hi
    have h2 := derSeq_bounds hr h1.2
    obtain ⟨t, hvt, hct, hst, hyt⟩ := ih1 hi
    obtain ⟨ks, hm, hv, ho, hy⟩ := ih2 h1.2
    have hsym : (t :: ks).map DTree.sym = X :: rest := by rw [List.map_cons, hst, hm]
    have hval : DTree.validL g (t :: ks) = true := Bool.and_eq_true_iff.2 ⟨hvt, hv⟩
    have hopen : DTree.hasOpenL (t :: ks) = false := Bool.or_eq_false_iff.2 ⟨(DTree.closed_iff t).1 hct, ho⟩
    refine ⟨_, hsym, hval, hopen, ?_⟩
    rw [DTree.yieldCL, hyt, hy, take_join h1.1 h2.1]

theorem inLang_of_der {g : Grammar} {s : List Char} {A i j} :
    Der g s A i j → i ≤ s.length → InLang g A ((s.drop i).take (j - i)) := by
  rintro ⟨has, halt, hs⟩ hi
  exact inLang_of_kids has halt (kids_of_derSeq_aux g s hs hi)

theorem der_iff_inLang {g : Grammar} {A : String} {s : List Char} (h0 : isNT g "" = false)
    (hA : isNT g A = true) : Der g s A 0 s.length ↔ InLang g A s := by
  constructor
  · intro h
    have := inLang_of_der h (Nat.zero_le _)
    rwa [List.drop_zero, Nat.sub_zero, List.take_length] at this
  · rintro ⟨t, hv, hc, rfl, rfl⟩
    have := der_of_tree g h0 (t.yieldC g) t 0 hv ((DTree.closed_iff t).1 hc) hA List.take_length
    rwa [Nat.zero_add] at this

end IslaVerif.C10
