import IslaVerif.Proofs.Tree
import IslaVerif.Proofs.Basics
/-
`cacheOk`: every cached openness flag that is present is the openness of the subtree it sits on (`erase`
forgets the flags). Every operation rebuilds the nodes between the place it changes and the root through the
constructor `mkNode`, so the invariant is kept once the constructor keeps it for a flag argument that is
absent or right (`cacheOk_mkNode`) and the flag `replace_path` hands it for a rebuilt parent is
(`parentFlag_ok`).
-/
namespace IslaVerif.C16
open IslaVerif.PTree

mutual
def cacheOk : PTree → Bool
  | .openLeaf _ _ => true
  | .node _ _ ks c => (c == none || c == some (DTree.hasOpenL (eraseL ks))) && cacheOkL ks
def cacheOkL : List PTree → Bool
  | [] => true
  | k :: ks => cacheOk k && cacheOkL ks
end

theorem _root_.IslaVerif.PTree.ind {P : PTree → Prop} (leaf : ∀ i s, P (.openLeaf i s))
    (node : ∀ i s ks c, (∀ k ∈ ks, P k) → P (.node i s ks c)) : ∀ t, P t :=
  @PTree.rec P (fun ks => ∀ k ∈ ks, P k) leaf node (fun _ h => nomatch h)
    (fun _ _ hk hks _ h => by
      rcases List.mem_cons.1 h with rfl | h
      · exact hk
      · exact hks _ h)

theorem eraseL_eq_map (ks : List PTree) : eraseL ks = ks.map erase := by
  induction ks with
  | nil => rfl
  | cons k ks ih => rw [eraseL, ih, List.map_cons]

theorem ofDTreeL_eq_map (ds : List DTree) : ofDTreeL ds = ds.map ofDTree := by
  induction ds with
  | nil => rfl
  | cons d ds ih => rw [ofDTreeL, ih, List.map_cons]

theorem computeOpenL_eq_any (ks : List PTree) : computeOpenL ks = ks.any computeOpen := by
  induction ks with
  | nil => rfl
  | cons k ks ih => rw [computeOpenL, ih, List.any_cons]

theorem cacheOkL_iff (ks : List PTree) : cacheOkL ks = true ↔ ∀ k ∈ ks, cacheOk k = true := by
  induction ks with
  | nil => exact ⟨fun _ => nofun, fun _ => rfl⟩
  | cons k ks ih => rw [cacheOkL, Bool.and_eq_true, ih, List.forall_mem_cons]

theorem erase_node (i : Nat) (s : String) (ks : List PTree) (c : Option Bool) :
    erase (.node i s ks c) = .node i s (ks.map erase) := by
  rw [erase, eraseL_eq_map]

theorem eraseL_get_none : ∀ (ks : List PTree) (j : Nat), ks[j]? = none →
    (eraseL ks)[j]? = none := by
  intro ks j h
  rw [eraseL_eq_map, List.getElem?_map, h]; rfl

theorem _root_.IslaVerif.PTree.get_node_cons (i : Nat) (s : String) (ks : List PTree) (c : Option Bool) (j : Nat) (p : Path) :
    PTree.get (.node i s ks c) (j :: p) = ks[j]?.bind (PTree.get · p) := by
  rw [PTree.get, kids]; cases ks[j]? <;> rfl

theorem replaceRaw_node_cons (i : Nat) (s : String) (ks : List PTree) (c : Option Bool) (j : Nat) (p : Path)
    (r : PTree) : replaceRaw (.node i s ks c) (j :: p) r =
      ks[j]?.bind fun k => (replaceRaw k p r).map fun k' => mkNode i s (ks.set j k') (parentFlag k' c) := by
  rw [replaceRaw]
  cases ks[j]? with
  | none => rfl
  | some k => dsimp only [Option.bind_some]; cases replaceRaw k p r <;> rfl

theorem mkNode_cases (i : Nat) (s : String) (ks : List PTree) (a : Option Bool) :
    ∃ c, mkNode i s ks a = .node i s ks c ∧
      (c = some false ∧ ks = [] ∨ (c = some true ∧ ∃ k ∈ ks, k.cache = some true) ∨ c = a) := by
  by_cases h1 : ks.isEmpty = true
  · exact ⟨_, if_pos h1, Or.inl ⟨rfl, List.isEmpty_iff.1 h1⟩⟩
  · by_cases h2 : ks.any (fun k => k.cache == some true) = true
    · obtain ⟨k, hk, hc⟩ := List.any_eq_true.1 h2
      exact ⟨_, (if_neg h1).trans (if_pos h2), Or.inr (Or.inl ⟨rfl, k, hk, beq_iff_eq.1 hc⟩)⟩
    · exact ⟨_, (if_neg h1).trans (if_neg h2), Or.inr (Or.inr rfl)⟩

theorem erase_mkNode (i : Nat) (s : String) (ks : List PTree) (a : Option Bool) :
    erase (mkNode i s ks a) = .node i s (ks.map erase) := by
  obtain ⟨c, h, _⟩ := mkNode_cases i s ks a
  rw [h, erase_node]

theorem replaceRaw_nil (t r : PTree) : replaceRaw t [] r = some r := by cases t <;> rfl

theorem erase_replaceRaw (p : Path) : ∀ (t r t' : PTree), replaceRaw t p r = some t' →
    DTree.replace (erase t) p (erase r) = some (erase t') := by
  induction p with
  | nil =>
    intro t r t' h
    cases (replaceRaw_nil t r).symm.trans h
    exact DTree.replace_nil ..
  | cons j p ih =>
    intro t r t' h
    cases t with
    | openLeaf i s => cases h
    | node i s ks c =>
      rw [replaceRaw_node_cons] at h
      obtain ⟨k, hk, h⟩ := Option.bind_eq_some_iff.1 h
      obtain ⟨k', hk', rfl⟩ := Option.map_eq_some_iff.1 h
      rw [erase_node, DTree.replace_node_cons, List.getElem?_map, hk, Option.map_some, Option.bind_some,
        ih k r k' hk', erase_mkNode, List.map_set]
      rfl

theorem erase_ofDTree' (d : DTree) : erase (ofDTree d) = d := by
  induction d using DTree.ind with
  | leaf i s => rfl
  | node i s ks ih =>
    rw [ofDTree, erase_mkNode, ofDTreeL_eq_map, List.map_map]
    exact congrArg _ ((List.map_congr_left ih).trans (List.map_id' ks))

theorem eraseL_ofDTreeL_aux : ∀ (ds : List DTree), eraseL (ofDTreeL ds) = ds := by
  intro ds
  rw [eraseL_eq_map, ofDTreeL_eq_map, List.map_map]
  exact List.map_id'' erase_ofDTree' ds

theorem cacheOk_node_iff {i : Nat} {s : String} {ks : List PTree} {c : Option Bool} :
    cacheOk (.node i s ks c) = true ↔
      (c = none ∨ c = some ((ks.map erase).any DTree.hasOpen)) ∧ ∀ k ∈ ks, cacheOk k = true := by
  rw [cacheOk, Bool.and_eq_true, cacheOkL_iff, Bool.or_eq_true, beq_iff_eq, beq_iff_eq,
    DTree.hasOpenL_eq_any, eraseL_eq_map]

theorem cache_eq_some {k : PTree} {b : Bool} (hk : cacheOk k = true) (hc : k.cache = some b) :
    (erase k).hasOpen = b := by
  cases k with
  | openLeaf i s => cases hc; rfl
  | node i s ks c =>
    cases hc
    rw [erase_node, DTree.hasOpen_node]
    rcases (cacheOk_node_iff.1 hk).1 with h | h
    · cases h
    · exact (Option.some.inj h).symm

theorem computeOpen_eq : ∀ (t : PTree), cacheOk t = true → computeOpen t = (erase t).hasOpen := by
  intro t
  induction t using PTree.ind with
  | leaf i s => intro _; rfl
  | node i s ks c ih =>
    intro h
    obtain ⟨hc, hks⟩ := cacheOk_node_iff.1 h
    rw [List.any_map] at hc
    rw [computeOpen, computeOpenL_eq_any, erase_node, DTree.hasOpen_node, List.any_map,
      List.any_congr_mem (q := DTree.hasOpen ∘ erase) fun k hk => ih k hk (hks k hk)]
    -- an absent flag says nothing, and a right one adds nothing to what the children say
    rcases hc with rfl | rfl
    · rfl
    · cases ks.any (DTree.hasOpen ∘ erase) <;> rfl

theorem computeOpenL_eq (ks : List PTree) (h : ∀ k ∈ ks, cacheOk k = true) :
    computeOpenL ks = (ks.map erase).any DTree.hasOpen := by
  rw [computeOpenL_eq_any, List.any_map]
  exact List.any_congr_mem fun k hk => computeOpen_eq k (h k hk)

theorem cacheOk_get (p : Path) : ∀ (t u : PTree), cacheOk t = true → get t p = some u → cacheOk u = true := by
  induction p with
  | nil =>
    intro t u ht h
    cases h
    exact ht
  | cons j p ih =>
    intro t u ht h
    cases t with
    | openLeaf i s => cases h
    | node i s ks c =>
      rw [PTree.get_node_cons] at h
      obtain ⟨k, hk, h⟩ := Option.bind_eq_some_iff.1 h
      exact ih k u ((cacheOk_node_iff.1 ht).2 k (List.mem_of_getElem? hk)) h

theorem cacheOk_mkNode (i : Nat) (s : String) (ks : List PTree) (a : Option Bool)
    (hk : ∀ k ∈ ks, cacheOk k = true) (ha : a = none ∨ a = some ((ks.map erase).any DTree.hasOpen)) :
    cacheOk (mkNode i s ks a) = true := by
  obtain ⟨c, h, hc⟩ := mkNode_cases i s ks a
  rw [h, cacheOk_node_iff]
  refine ⟨?_, hk⟩
  rcases hc with ⟨rfl, rfl⟩ | ⟨rfl, k, hkm, hc⟩ | rfl
  · exact Or.inr rfl
  · -- a child whose flag says open is open, because its flag is right
    have hopen : (erase k).hasOpen = true := cache_eq_some (hk k hkm) hc
    have hany : (ks.map erase).any DTree.hasOpen = true :=
      List.any_eq_true.2 ⟨erase k, List.mem_map_of_mem hkm, hopen⟩
    rw [hany]
    exact Or.inr rfl
  · exact ha

theorem cacheOk_ofDTree (d : DTree) : cacheOk (ofDTree d) = true := by
  induction d using DTree.ind with
  | leaf i s => rfl
  | node i s ks ih =>
    rw [ofDTree, ofDTreeL_eq_map]
    refine cacheOk_mkNode i s _ none (fun k hk => ?_) (Or.inl rfl)
    obtain ⟨d, hd, rfl⟩ := List.mem_map.1 hk
    exact ih d hd

theorem cacheOkL_ofDTreeL_aux : ∀ (ds : List DTree), cacheOkL (ofDTreeL ds) = true := by
  intro ds
  rw [cacheOkL_iff, ofDTreeL_eq_map]
  intro k hk
  obtain ⟨d, _, rfl⟩ := List.mem_map.1 hk
  exact cacheOk_ofDTree d

theorem isOpenOp_correct (t : PTree) (h : cacheOk t = true) :
    (isOpenOp t).1 = (erase t).hasOpen ∧ cacheOk (isOpenOp t).2 = true ∧ erase (isOpenOp t).2 = erase t := by
  cases t with
  | openLeaf i s => exact ⟨rfl, h, rfl⟩
  | node i s ks c =>
    cases c with
    | some b => exact ⟨(cache_eq_some h rfl).symm, h, rfl⟩
    | none =>
      have hks := (cacheOk_node_iff.1 h).2
      refine ⟨?_, cacheOk_node_iff.2 ⟨Or.inr (congrArg some (computeOpenL_eq ks hks)), hks⟩, rfl⟩
      rw [erase_node, DTree.hasOpen_node]
      exact computeOpenL_eq ks hks

/-- the flag `replace_path` gives a rebuilt parent; it is false when the new child is closed and so was the
parent, whose other children are unchanged -/
theorem parentFlag_ok {k' : PTree} {c : Option Bool} {ds : List DTree} {j : Nat} (hj : j < ds.length)
    (hk' : cacheOk k' = true) (hc : c = none ∨ c = some (ds.any DTree.hasOpen)) :
    parentFlag k' c = none ∨ parentFlag k' c = some ((ds.set j (erase k')).any DTree.hasOpen) := by
  unfold parentFlag
  split
  · next h1 =>
    -- the new child says open, and its flag is right
    have hany : (ds.set j (erase k')).any DTree.hasOpen = true :=
      List.any_eq_true.2 ⟨erase k', List.mem_set hj _, cache_eq_some hk' (beq_iff_eq.1 h1)⟩
    rw [hany]
    exact Or.inr rfl
  · split
    · next h2 =>
      obtain ⟨h2a, h2c⟩ := Bool.and_eq_true_iff.1 h2
      cases beq_iff_eq.1 h2c
      have hold : ds.any DTree.hasOpen = false := (Option.some.inj (hc.resolve_left nofun)).symm
      -- no child is open: the old ones were not, and the new one says closed
      have hany : (ds.set j (erase k')).any DTree.hasOpen = false := List.any_eq_false.2 fun x hx => by
        rcases List.mem_or_eq_of_mem_set hx with hx | rfl
        · exact List.any_eq_false.1 hold x hx
        · rw [cache_eq_some hk' (beq_iff_eq.1 h2a)]
          exact Bool.false_ne_true
      rw [hany]
      exact Or.inr rfl
    · exact Or.inl rfl

theorem cacheOk_replaceRaw (p : Path) : ∀ (t r t' : PTree), cacheOk t = true → cacheOk r = true →
    replaceRaw t p r = some t' → cacheOk t' = true := by
  induction p with
  | nil =>
    intro t r t' _ hr h
    cases (replaceRaw_nil t r).symm.trans h
    exact hr
  | cons j p ih =>
    intro t r t' ht hr h
    cases t with
    | openLeaf i s => cases h
    | node i s ks c =>
      rw [replaceRaw_node_cons] at h
      obtain ⟨k, hk, h⟩ := Option.bind_eq_some_iff.1 h
      obtain ⟨k', hk', rfl⟩ := Option.map_eq_some_iff.1 h
      obtain ⟨hc, hks⟩ := cacheOk_node_iff.1 ht
      have hk'ok := ih k r k' (hks k (List.mem_of_getElem? hk)) hr hk'
      refine cacheOk_mkNode i s _ _ (fun x hx => ?_) ?_
      · rcases List.mem_or_eq_of_mem_set hx with hx | rfl
        · exact hks x hx
        · exact hk'ok
      · rw [List.map_set]
        exact parentFlag_ok (by rw [List.length_map]; exact (List.getElem?_eq_some_iff.1 hk).1) hk'ok hc

theorem replacePath_eq (t r : PTree) (p : Path) (b : Bool) : replacePath t p r b =
    (get t p).bind fun old => replaceRaw t p
      (if b then
        match r with
        | .openLeaf _ s => .openLeaf old.id s
        | .node _ s ks _ => mkNode old.id s ks (some (isOpenOp r).1)
      else r) := by
  unfold replacePath
  cases get t p <;> rfl

theorem cacheOk_replacePath (t r t' : PTree) (p : Path) (b : Bool)
    (ht : cacheOk t = true) (hr : cacheOk r = true) (h : replacePath t p r b = some t') :
    cacheOk t' = true := by
  rw [replacePath_eq] at h
  obtain ⟨old, _, h⟩ := Option.bind_eq_some_iff.1 h
  refine cacheOk_replaceRaw p t _ t' ht ?_ h
  cases b with
  | false => exact hr
  | true =>
    cases r with
    | openLeaf i s => rfl
    | node i s ks c =>
      refine cacheOk_mkNode _ _ _ _ (cacheOk_node_iff.1 hr).2 (Or.inr ?_)
      rw [(isOpenOp_correct _ hr).1, erase_node, DTree.hasOpen_node]

theorem cacheOk_setAt (p : Path) : ∀ (t u u' t' : PTree), cacheOk t = true → cacheOk u' = true →
    erase u' = erase u → PTree.get t p = some u → setAt t p u' = some t' →
    cacheOk t' = true ∧ erase t' = erase t := by
  induction p with
  | nil =>
    intro t u u' t' _ hu' he hg h
    cases hg
    have : setAt t [] u' = some u' := by cases t <;> rfl
    cases this.symm.trans h
    exact ⟨hu', he⟩
  | cons j p ih =>
    intro t u u' t' ht hu' he hg h
    cases t with
    | openLeaf i s => cases hg
    | node i s ks c =>
      rw [PTree.get_node_cons] at hg
      obtain ⟨k, hk, hg⟩ := Option.bind_eq_some_iff.1 hg
      rw [setAt, hk] at h
      obtain ⟨k', hs, rfl⟩ := Option.map_eq_some_iff.1 h
      obtain ⟨hc, hks⟩ := cacheOk_node_iff.1 ht
      obtain ⟨h1, h2⟩ := ih k u u' k' (hks k (List.mem_of_getElem? hk)) hu' he hg hs
      obtain ⟨hj, rfl⟩ := List.getElem?_eq_some_iff.1 hk
      have hE : (ks.set j k').map erase = ks.map erase := by
        rw [List.map_set, h2, ← List.map_set, List.set_getElem_self]
      refine ⟨cacheOk_node_iff.2 ⟨hE ▸ hc, fun x hx => ?_⟩, by rw [erase_node, erase_node, hE]⟩
      rcases List.mem_or_eq_of_mem_set hx with hx | rfl
      · exact hks x hx
      · exact h1

theorem cacheOk_isOpenAt (t t' : PTree) (p : Path) (b : Bool)
    (ht : cacheOk t = true) (h : isOpenAt t p = some (b, t')) :
    cacheOk t' = true ∧ erase t' = erase t ∧ ∃ u, get t p = some u ∧ b = (erase u).hasOpen := by
  unfold isOpenAt at h
  split at h
  · cases h
  · rename_i u hu
    obtain ⟨c1, c2, c3⟩ := isOpenOp_correct u (cacheOk_get p t u ht hu)
    obtain ⟨t2, hs, h⟩ := Option.map_eq_some_iff.1 h
    cases h
    obtain ⟨h1, h2⟩ := cacheOk_setAt p t u _ _ ht c2 c3 hu hs
    exact ⟨h1, h2, u, hu, c1⟩

theorem cacheOk_substituteIds : ∀ (m : List (Nat × PTree)) (t : PTree), cacheOk t = true →
    (∀ x ∈ m, cacheOk x.2 = true) → cacheOk (substituteIds t m) = true := by
  intro m
  induction m with
  | nil => exact fun t ht _ => ht
  | cons x rest ih =>
    intro t ht hm
    obtain ⟨i, r⟩ := x
    have hrest : ∀ x ∈ rest, cacheOk x.2 = true := fun x hx => hm x (List.mem_cons_of_mem _ hx)
    have hr : cacheOk r = true := hm (i, r) (List.mem_cons_self ..)
    simp only [substituteIds]
    split
    · exact ih t ht hrest
    · rename_i p hp
      split
      · exact ih t ht hrest
      · rename_i t2 ht2
        exact ih t2 (cacheOk_replacePath t r t2 p false ht hr ht2) hrest

theorem cacheOk_substitute (t : PTree) (m : List (Nat × PTree))
    (ht : cacheOk t = true) (hm : ∀ x ∈ m, cacheOk x.2 = true) :
    cacheOk (substitute t m) = true :=
  cacheOk_substituteIds (substFilter m) t ht fun x hx => hm x (List.mem_filter.1 hx).1

theorem cacheOk_expandAt (isNT : String → Bool) (t t' : PTree) (p : Path) (alt : List String) (ids : List Nat)
    (ht : cacheOk t = true) (h : expandAt isNT t p alt ids = some t') : cacheOk t' = true := by
  unfold expandAt at h
  split at h
  · rename_i i s hg
    simp only at h
    refine cacheOk_replacePath t _ t' p false ht ?_ h
    refine cacheOk_mkNode _ _ _ _ (fun k hk => ?_) (Or.inl rfl)
    obtain ⟨⟨c, k⟩, _, rfl⟩ := List.mem_map.1 hk
    dsimp only
    split
    · rfl
    · exact cacheOk_mkNode k c [] none nofun (Or.inl rfl)
  · simp at h

end IslaVerif.C16
