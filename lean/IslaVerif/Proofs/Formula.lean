import IslaVerif.Model.Formula
import IslaVerif.Proofs.Basics
/-
Meaning (`Sat`) of the formula AST under an arbitrary interpretation.  An n-ary `conj` / `disj` is a bounded
quantifier over its argument list (`sat_conj`, `sat_disj`), and the list half of a rewrite (`negL`, `nnfL`,
`dnfL`, `mapM'`) succeeds exactly with the list of pointwise results (`as.map t = gs.map some`).  So what a
rewrite does on `conj fs` is what it does on an element, under a bounded quantifier: `sat_of_map_eq`.
-/
namespace IslaVerif.C09
open IslaVerif.F

/-- `Env` abstracts (closed derivation tree, variable assignment).  Atoms are arbitrary predicates of
the environment; a tree quantifier `q` ranges over an arbitrary finite list of extended
environments (possibly empty); numeric quantifiers range over all of ℕ.  The theorems therefore
hold for every grammar, every closed tree and every assignment at once. -/
structure Interp (Env : Type) where
  atom : Nat → Env → Prop
  smt : Nat → Env → Prop
  dom : Nat → Env → List Env
  bindInt : Nat → Nat → Env → Env

mutual
def Sat {Env} (I : Interp Env) : Env → F → Prop
  | ρ, .atom a => I.atom a ρ
  | ρ, .smt s true => I.smt s ρ
  | ρ, .smt s false => ¬ I.smt s ρ
  | _, .tt => True
  | _, .ff => False
  | ρ, .neg f => ¬ Sat I ρ f
  | ρ, .conj fs => SatAll I ρ fs
  | ρ, .disj fs => SatAny I ρ fs
  | ρ, .all q f => ∀ ρ' ∈ I.dom q ρ, Sat I ρ' f
  | ρ, .ex q f => ∃ ρ' ∈ I.dom q ρ, Sat I ρ' f
  | ρ, .allInt v f => ∀ n : Nat, Sat I (I.bindInt v n ρ) f
  | ρ, .exInt v f => ∃ n : Nat, Sat I (I.bindInt v n ρ) f
def SatAll {Env} (I : Interp Env) : Env → List F → Prop
  | _, [] => True
  | ρ, f :: fs => Sat I ρ f ∧ SatAll I ρ fs
def SatAny {Env} (I : Interp Env) : Env → List F → Prop
  | _, [] => False
  | ρ, f :: fs => Sat I ρ f ∨ SatAny I ρ fs
end

mutual
/-- Boolean checker for "well-formed": every conjunction / disjunction has at least one argument
(Python's constructors demand at least two) -/
def WF : F → Bool
  | .neg f => WF f
  | .conj fs => !fs.isEmpty && WFL fs
  | .disj fs => !fs.isEmpty && WFL fs
  | .all _ f => WF f
  | .ex _ f => WF f
  | .allInt _ f => WF f
  | .exInt _ f => WF f
  | _ => true
def WFL : List F → Bool
  | [] => true
  | f :: fs => WF f && WFL fs
end

mutual
/-- Boolean checker for "negations only in front of predicate atoms", everywhere (also below quantifiers) -/
def NegOnAtoms : F → Bool
  | .neg (.atom _) => true
  | .neg _ => false
  | .conj fs => NegOnAtomsL fs
  | .disj fs => NegOnAtomsL fs
  | .all _ f => NegOnAtoms f
  | .ex _ f => NegOnAtoms f
  | .allInt _ f => NegOnAtoms f
  | .exInt _ f => NegOnAtoms f
  | _ => true
def NegOnAtomsL : List F → Bool
  | [] => true
  | f :: fs => NegOnAtoms f && NegOnAtomsL fs
end

@[induction_eliminator]
theorem _root_.IslaVerif.F.ind {P : F → Prop}
    (atom : ∀ a, P (.atom a)) (smt : ∀ s p, P (.smt s p)) (tt : P .tt) (ff : P .ff)
    (neg : ∀ f, P f → P (.neg f))
    (conj : ∀ fs, (∀ f ∈ fs, P f) → P (.conj fs)) (disj : ∀ fs, (∀ f ∈ fs, P f) → P (.disj fs))
    (all : ∀ q f, P f → P (.all q f)) (ex : ∀ q f, P f → P (.ex q f))
    (allInt : ∀ v f, P f → P (.allInt v f)) (exInt : ∀ v f, P f → P (.exInt v f)) : ∀ f, P f :=
  @F.rec P (fun fs => ∀ f ∈ fs, P f) atom smt tt ff neg conj disj all ex allInt exInt
    (fun _ h => nomatch h) (fun _ _ hf hfs _ h => by
      cases h with
      | head => exact hf
      | tail _ h => exact hfs _ h)

theorem WFL_iff {fs : List F} : WFL fs = true ↔ ∀ f ∈ fs, WF f = true := by
  induction fs with
  | nil => exact iff_of_true rfl (List.forall_mem_nil _)
  | cons f fs ih =>
    rw [List.forall_mem_cons, ← ih]
    exact Bool.and_eq_true_iff

theorem NegOnAtomsL_iff {fs : List F} : NegOnAtomsL fs = true ↔ ∀ f ∈ fs, NegOnAtoms f = true := by
  induction fs with
  | nil => exact iff_of_true rfl (List.forall_mem_nil _)
  | cons f fs ih =>
    rw [List.forall_mem_cons, ← ih]
    exact Bool.and_eq_true_iff

/-- what `WF (.conj fs)` and `WF (.disj fs)` unfold to -/
theorem wf_args {fs : List F} : (!fs.isEmpty && WFL fs) = true ↔ fs ≠ [] ∧ ∀ f ∈ fs, WF f = true := by
  simp [WFL_iff]

theorem beqL_eq_of {as bs : List F} (he : ∀ a ∈ as, ∀ b, beq a b = true → a = b)
    (h : beqL as bs = true) : as = bs :=
  have ⟨hl, hs⟩ := (List.pointwise_iff rfl (fun _ _ => rfl) (fun _ _ => rfl) (fun _ _ _ _ => rfl) as bs).1 h
  List.ext_getElem hl fun n h1 h2 => he _ (List.getElem_mem h1) _ (hs n h1 h2)

theorem beq_eq (a b : F) (h : beq a b = true) : a = b := by
  induction a generalizing b with
  | atom a =>
    cases b <;> try contradiction
    rw [eq_of_beq h]
  | smt s p =>
    cases b <;> try contradiction
    obtain ⟨h1, h2⟩ := Bool.and_eq_true_iff.1 h
    rw [eq_of_beq h1, eq_of_beq h2]
  | tt | ff =>
    cases b <;> try contradiction
    rfl
  | neg f ih =>
    cases b <;> try contradiction
    rw [ih _ h]
  | conj fs ih | disj fs ih =>
    cases b <;> try contradiction
    rw [beqL_eq_of ih h]
  | all q f ih | ex q f ih | allInt q f ih | exInt q f ih =>
    cases b <;> try contradiction
    obtain ⟨h1, h2⟩ := Bool.and_eq_true_iff.1 h
    rw [eq_of_beq h1, ih _ h2]

theorem splitConjL_eq (fs : List F) : splitConjL fs = fs.flatMap splitConj := by
  induction fs with
  | nil => rfl
  | cons f fs ih => exact congrArg (splitConj f ++ ·) ih

theorem splitDisjL_eq (fs : List F) : splitDisjL fs = fs.flatMap splitDisj := by
  induction fs with
  | nil => rfl
  | cons f fs ih => exact congrArg (splitDisj f ++ ·) ih

theorem negL_eq_some {fs gs : List F} : negL fs = some gs ↔ fs.map negF = gs.map some :=
  List.traverse_eq_some (tL := negL) rfl fun f fs => by
    rw [negL]
    cases negF f <;> cases negL fs <;> rfl

theorem nnfL_eq_some {b : Bool} {fs gs : List F} :
    nnfL fs b = some gs ↔ fs.map (nnf · b) = gs.map some :=
  List.traverse_eq_some (tL := (nnfL · b)) rfl fun f fs => by
    show nnfL (f :: fs) b = _
    rw [nnfL]
    cases nnf f b <;> cases nnfL fs b <;> rfl

theorem mapM'_eq_some {t : List F → Option F} {cs : List (List F)} {ks : List F} :
    mapM' t cs = some ks ↔ cs.map t = ks.map some :=
  List.traverse_eq_some (tL := mapM' t) rfl fun c cs => by
    rw [mapM']
    cases t c <;> cases mapM' t cs <;> rfl

theorem dnfL_eq_inr {fs ds : List F} : dnfL fs = .inr ds ↔ fs.map (dnf · true) = ds.map Res.ok := by
  induction fs generalizing ds with
  | nil =>
    cases ds with
    | nil => exact iff_of_true rfl rfl
    | cons => exact ⟨nofun, nofun⟩
  | cons f fs ih =>
    rw [dnfL]
    constructor
    · intro h
      split at h
      · next g hg =>
        split at h
        · next gs hgs =>
          cases h
          rw [List.map_cons, List.map_cons, hg, ih.1 hgs]
        · cases h
      · cases h
    · intro h
      cases ds with
      | nil => cases h
      | cons d ds =>
        rw [List.map_cons, List.map_cons, List.cons.injEq] at h
        rw [h.1, ih.2 h.2]

/-- the first failure is what `dnfL` returns, so it is not an `ok` -/
theorem dnfL_ne_inl_ok (g : F) (fs : List F) : dnfL fs ≠ .inl (.ok g) := by
  induction fs with
  | nil => nofun
  | cons f fs ih =>
    rw [dnfL]
    split
    · split
      · nofun
      · next e he =>
        intro h
        cases h
        exact ih he
    · next hne => exact fun h => hne g (Sum.inl.inj h)

theorem exists_map_eq {α γ} {t : α → γ} {inj : F → γ} {as : List α} (h : ∀ a ∈ as, ∃ g, t a = inj g) :
    ∃ gs : List F, as.map t = gs.map inj ∧ gs.length = as.length := by
  induction as with
  | nil => exact ⟨[], rfl, rfl⟩
  | cons a as ih =>
    obtain ⟨g, hg⟩ := h a List.mem_cons_self
    obtain ⟨gs, hgs, hl⟩ := ih fun a ha => h a (List.mem_cons_of_mem _ ha)
    exact ⟨g :: gs, by rw [List.map_cons, List.map_cons, hg, hgs],
      by rw [List.length_cons, hl, List.length_cons]⟩

/-- `hiff` is `negL_eq_some`, `nnfL_eq_some`, `dnfL_eq_inr` or `mapM'_eq_some` -/
theorem listHalf_total {α γ δ} {t : α → γ} {inj : F → γ} {r : δ} {ret : List F → δ} {as : List α}
    (hiff : ∀ {gs}, r = ret gs ↔ as.map t = gs.map inj) (h : ∀ a ∈ as, ∃ g, t a = inj g) :
    ∃ gs, r = ret gs ∧ gs.length = as.length :=
  let ⟨gs, hgs, hl⟩ := exists_map_eq h
  ⟨gs, hiff.2 hgs, hl⟩

theorem reduce1_some (op : F → F → F) {l : List F} (h : l ≠ []) : ∃ g, reduce1 op l = some g := by
  cases l with
  | nil => exact absurd rfl h
  | cons x xs => exact ⟨_, rfl⟩

theorem bind_reduce1_some (op : F → F → F) {fs : List F} {r : Option (List F)} (hne : fs ≠ [])
    (hr : ∃ gs, r = some gs ∧ gs.length = fs.length) : ∃ g, r.bind (reduce1 op) = some g := by
  obtain ⟨gs, rfl, hl⟩ := hr
  exact reduce1_some op fun h => hne (List.length_eq_zero_iff.1 (by rw [← hl, h]; rfl))

theorem cube_some {c : List F} (h : c ≠ []) : ∃ k, cube c = some k := by
  obtain ⟨g, hg⟩ := reduce1_some andF h
  exact ⟨_, by rw [cube, hg]; rfl⟩

theorem product_length (ls : List (List F)) (c : List F) (h : c ∈ product ls) : c.length = ls.length := by
  induction ls generalizing c with
  | nil =>
    rw [product, List.mem_singleton] at h
    rw [h]; rfl
  | cons l ls ih =>
    simp only [product, List.mem_flatMap, List.mem_map] at h
    obtain ⟨x, _, r, hr, rfl⟩ := h
    simp [ih r hr]

theorem ne_nil_of_mem_product {ls : List (List F)} {c : List F} (hc : c ∈ product ls) (hls : ls ≠ []) :
    c ≠ [] := fun h =>
  hls (List.length_eq_zero_iff.1 (by rw [← product_length ls c hc, h]; rfl))

theorem forall_exists_iff_product {P : F → Prop} (ls : List (List F)) :
    (∀ l ∈ ls, ∃ x ∈ l, P x) ↔ ∃ c ∈ product ls, ∀ x ∈ c, P x := by
  induction ls with
  | nil => exact iff_of_true (List.forall_mem_nil _) ⟨[], List.mem_cons_self, List.forall_mem_nil _⟩
  | cons l ls ih =>
    simp only [List.forall_mem_cons, ih, product, List.mem_flatMap, List.mem_map]
    constructor
    · rintro ⟨⟨x, hx, hp⟩, c, hc, hcs⟩
      exact ⟨x :: c, ⟨x, hx, c, hc, rfl⟩, List.forall_mem_cons.2 ⟨hp, hcs⟩⟩
    · rintro ⟨_, ⟨x, hx, c, hc, rfl⟩, hs⟩
      exact ⟨⟨x, hx, (List.forall_mem_cons.1 hs).1⟩, c, hc, (List.forall_mem_cons.1 hs).2⟩

theorem not_forall_mem {α} {d : List α} {P : α → Prop} : (¬ ∀ x ∈ d, P x) ↔ ∃ x ∈ d, ¬ P x := by
  simp only [Classical.not_forall, exists_prop]

theorem not_exists_mem {α} {d : List α} {P : α → Prop} : (¬ ∃ x ∈ d, P x) ↔ ∀ x ∈ d, ¬ P x := by
  simp only [not_exists, not_and]

section
variable {Env : Type} (I : Interp Env) (ρ : Env)

theorem satAll_iff (l : List F) : SatAll I ρ l ↔ ∀ f ∈ l, Sat I ρ f := by
  induction l with
  | nil => exact iff_of_true trivial (List.forall_mem_nil _)
  | cons f fs ih =>
    rw [List.forall_mem_cons, ← ih]
    exact Iff.rfl

theorem satAny_iff (l : List F) : SatAny I ρ l ↔ ∃ f ∈ l, Sat I ρ f := by
  induction l with
  | nil => exact iff_of_false id nofun
  | cons f fs ih =>
    simp only [List.mem_cons, exists_eq_or_imp, ← ih]
    exact Iff.rfl

theorem sat_conj (fs : List F) : Sat I ρ (.conj fs) ↔ ∀ f ∈ fs, Sat I ρ f := satAll_iff I ρ fs

theorem sat_disj (fs : List F) : Sat I ρ (.disj fs) ↔ ∃ f ∈ fs, Sat I ρ f := satAny_iff I ρ fs

theorem satAll_append (l₁ l₂ : List F) : SatAll I ρ (l₁ ++ l₂) ↔ SatAll I ρ l₁ ∧ SatAll I ρ l₂ := by
  simp only [satAll_iff, List.forall_mem_append]

theorem satAny_append (l₁ l₂ : List F) : SatAny I ρ (l₁ ++ l₂) ↔ SatAny I ρ l₁ ∨ SatAny I ρ l₂ := by
  simp only [satAny_iff, List.mem_append, or_and_right, exists_or]

theorem satAll_flatMap {α} (t : α → List F) (as : List α) :
    SatAll I ρ (as.flatMap t) ↔ ∀ a ∈ as, SatAll I ρ (t a) := by
  simp only [satAll_iff, List.forall_mem_flatMap]

theorem satAny_flatMap {α} (t : α → List F) (as : List α) :
    SatAny I ρ (as.flatMap t) ↔ ∃ a ∈ as, SatAny I ρ (t a) := by
  simp only [satAny_iff, List.mem_flatMap]
  constructor
  · rintro ⟨g, ⟨a, ha, hg⟩, h⟩
    exact ⟨a, ha, g, hg, h⟩
  · rintro ⟨a, ha, g, hg, h⟩
    exact ⟨g, ⟨a, ha, hg⟩, h⟩

/-- `inj` is `some` or `Res.ok`; `X a` is what the image of `a` is to mean -/
theorem sat_of_map_eq {α γ} {t : α → γ} {inj : F → γ} {X : α → Prop} {as : List α} {gs : List F}
    (h : as.map t = gs.map inj) (hX : ∀ a ∈ as, ∀ g, t a = inj g → (Sat I ρ g ↔ X a)) :
    (SatAll I ρ gs ↔ ∀ a ∈ as, X a) ∧ (SatAny I ρ gs ↔ ∃ a ∈ as, X a) := by
  induction as generalizing gs with
  | nil =>
    cases gs with
    | nil => exact ⟨iff_of_true trivial (List.forall_mem_nil _), iff_of_false id nofun⟩
    | cons => cases h
  | cons a as ih =>
    cases gs with
    | nil => cases h
    | cons g gs =>
      rw [List.map_cons, List.map_cons, List.cons.injEq] at h
      have hd := hX a List.mem_cons_self g h.1
      have tl := ih h.2 fun a ha => hX a (List.mem_cons_of_mem _ ha)
      constructor
      · rw [List.forall_mem_cons]
        exact and_congr hd tl.1
      · simp only [List.mem_cons, exists_eq_or_imp]
        exact or_congr hd tl.2

theorem satAll_unconj (g : F) :
    SatAll I ρ (match g with | .conj gs => gs | g => [g]) ↔ Sat I ρ g := by
  split
  · exact Iff.rfl
  · exact and_iff_left trivial

theorem satAny_undisj (g : F) :
    SatAny I ρ (match g with | .disj gs => gs | g => [g]) ↔ Sat I ρ g := by
  split
  · exact Iff.rfl
  · exact or_iff_left id

theorem sat_flatConjL_of {fs : List F} (h : ∀ f ∈ fs, (Sat I ρ (flat f) ↔ Sat I ρ f)) :
    SatAll I ρ (flatConjL fs) ↔ SatAll I ρ fs := by
  induction fs with
  | nil => exact Iff.rfl
  | cons f fs ih =>
    refine (satAll_append I ρ _ _).trans (and_congr ?_ (ih fun f hf => h f (List.mem_cons_of_mem _ hf)))
    exact (satAll_unconj I ρ (flat f)).trans (h f List.mem_cons_self)

theorem sat_flatDisjL_of {fs : List F} (h : ∀ f ∈ fs, (Sat I ρ (flat f) ↔ Sat I ρ f)) :
    SatAny I ρ (flatDisjL fs) ↔ SatAny I ρ fs := by
  induction fs with
  | nil => exact Iff.rfl
  | cons f fs ih =>
    refine (satAny_append I ρ _ _).trans (or_congr ?_ (ih fun f hf => h f (List.mem_cons_of_mem _ hf)))
    exact (satAny_undisj I ρ (flat f)).trans (h f List.mem_cons_self)

theorem sat_flat (f : F) : Sat I ρ (flat f) ↔ Sat I ρ f := by
  induction f generalizing ρ with
  | conj fs ih => exact sat_flatConjL_of I ρ fun f hf => ih f hf ρ
  | disj fs ih => exact sat_flatDisjL_of I ρ fun f hf => ih f hf ρ
  | neg f ih | all q f ih | ex q f ih | allInt q f ih | exInt q f ih => simp only [flat, Sat, ih]
  | _ => exact Iff.rfl

end

end IslaVerif.C09
