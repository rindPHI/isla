import IslaVerif.Model.Targets
import IslaVerif.Proofs.Grammar
import IslaVerif.Proofs.Basics
/-
`reachSet` saturates the successor relation of the grammar and then checks that the result is closed under it,
as the recognizer does: whenever it answers, everything collected is reachable (induction on the rounds) and
everything reachable has been collected (induction on `Reach`, by the closure check). The symbols of a valid
tree follow the successor relation, so every nonterminal below the root is reachable from the root's symbol.
-/
namespace IslaVerif
namespace Targets
open Grammar DTree

/-- `B` is reachable from `A` through one or more derivation steps -/
inductive Reach (g : Grammar) : String → String → Prop
  | step {A B : String} : B ∈ succs g A → Reach g A B
  | trans {A B C : String} : Reach g A B → C ∈ succs g B → Reach g A C

theorem Reach.head {g : Grammar} {A B C : String} (h : B ∈ succs g A) (hr : Reach g B C) : Reach g A C := by
  induction hr with
  | step hb => exact .trans (.step h) hb
  | trans _ hc ih => exact .trans ih hc

theorem reach_of_mem_stepR (g : Grammar) (A : String) (R : List String) (h : ∀ x ∈ R, Reach g A x) :
    ∀ x ∈ stepR g R, Reach g A x := by
  intro x hx
  rcases List.mem_append.1 hx with hx | hx
  · exact h x hx
  · rw [List.mem_eraseDups, List.mem_filter, List.mem_flatMap] at hx
    obtain ⟨⟨a, ha, hxa⟩, _⟩ := hx
    exact Reach.trans (h a ha) hxa

theorem reach_of_mem_iterR (g : Grammar) (A : String) (n : Nat) (R : List String)
    (h : ∀ x ∈ R, Reach g A x) : ∀ x ∈ iterR g n R, Reach g A x := by
  induction n generalizing R with
  | zero => exact h
  | succ n ih => exact ih (stepR g R) (reach_of_mem_stepR g A R h)

theorem closedR_spec (g : Grammar) (A : String) (R : List String) (h : closedR g A R = true) :
    (∀ b ∈ succs g A, b ∈ R) ∧ (∀ x ∈ R, ∀ y ∈ succs g x, y ∈ R) := by
  simp only [closedR, Bool.and_eq_true, List.all_eq_true, List.contains_iff_mem] at h
  exact h

theorem reachSet_iff' (g : Grammar) (A : String) (R : List String) (h : reachSet g A = some R) (B : String) :
    B ∈ R ↔ Reach g A B := by
  unfold reachSet at h
  simp only at h
  split at h
  · rename_i hc
    cases h
    obtain ⟨h1, h2⟩ := closedR_spec g A _ hc
    constructor
    · exact reach_of_mem_iterR g A _ _ (fun _ => Reach.step) B
    · intro hr
      induction hr with
      | step hb => exact h1 _ hb
      | trans _ hc ih => exact h2 _ ih _ hc
  · cases h

theorem reaches_iff' (g : Grammar) (A B : String) (b : Bool) (h : reaches g A B = some b) :
    b = true ↔ Reach g A B := by
  obtain ⟨R, hR, rfl⟩ := Option.map_eq_some_iff.1 h
  rw [List.contains_iff_mem]
  exact reachSet_iff' g A R hR B

/-- the checkers ask `reaches` for the symbol of every open leaf (`mapM`, so one uncertified answer voids all) -/
theorem true_mem_of_reach_openLeaf {g : Grammar} {ty : String} {t u : DTree} {p : Path} {rs : List Bool}
    (hm : (t.openLeaves.map fun pu => pu.2.sym).mapM (fun s => reaches g s ty) = some rs)
    (hg : t.get p = some u) (ho : u.isOpenLeaf = true) (hr : Reach g u.sym ty) : true ∈ rs := by
  have hmem : u.sym ∈ t.openLeaves.map fun pu => pu.2.sym :=
    List.mem_map.2 ⟨(p, u), List.mem_filter.2 ⟨(mem_paths_iff t p u).2 hg, ho⟩, rfl⟩
  obtain ⟨b, hb, hfb⟩ := List.exists_of_mapM_eq_some hm hmem
  cases (reaches_iff' g u.sym ty b hfb).2 hr
  exact hb

theorem Reach.isNT {g : Grammar} {A B : String} (h : Reach g A B) : isNT g A = true := by
  induction h with
  | step h =>
    cases hs : g.lookup A with
    | none => simp [succs, alts, hs] at h
    | some as => exact Option.isSome_of_eq_some hs
  | trans _ _ ih => exact ih

/-- `h0`: `""` labels the single child that realises an ε-alternative -/
theorem child_mem_succs (g : Grammar) (h0 : isNT g "" = false) (i : Nat) (s : String)
    (ks : List DTree) (k : DTree) (hv : (node i s ks).valid g = true) (hk : k ∈ ks)
    (hnt : isNT g k.sym = true) : k.sym ∈ succs g s := by
  obtain ⟨alt, halt, hm⟩ := valid_node_alt hv (List.ne_nil_of_mem hk)
  have hmem : k.sym ∈ ks.map sym := List.mem_map_of_mem hk
  rw [succs, List.mem_filter, List.mem_flatten]
  refine ⟨⟨alt, halt, ?_⟩, hnt⟩
  rcases Grammar.kidsMatch_iff.1 hm with hm | ⟨_, hm⟩
  · exact hm ▸ hmem
  · rw [hm, List.mem_singleton] at hmem
    rw [hmem, h0] at hnt
    cases hnt

theorem valid_reach (g : Grammar) (h0 : isNT g "" = false) : ∀ (q : Path) (u x : DTree),
    u.valid g = true → u.get q = some x → q ≠ [] → isNT g x.sym = true →
    Reach g u.sym x.sym := by
  intro q
  induction q with
  | nil => intro u x _ _ hne; exact absurd rfl hne
  | cons j q ih =>
    intro u x hv hg _ hnt
    obtain ⟨i, s, ks, hj, rfl, hx⟩ := get_cons_eq_some.1 hg
    have hm : ks[j] ∈ ks := List.getElem_mem hj
    cases q with
    | nil =>
      cases hx
      exact .step (child_mem_succs g h0 i s ks _ hv hm hnt)
    | cons j' q' =>
      have hr := ih _ x (valid_kid hm hv) hx nofun hnt
      exact .head (child_mem_succs g h0 i s ks _ hv hm (hr.isNT)) hr

end Targets
end IslaVerif
