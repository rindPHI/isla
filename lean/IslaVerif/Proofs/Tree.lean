import IslaVerif.Model.PTree
/-
`DTree` is a nested inductive type, so every function of the model on it is a mutual pair, a tree half and a
list half. To reason about such pairs without a mutual block per fact: `ind`, the list halves as core list
operations, `get` and `replace` one path step at a time, `replace_ind`.
The import is Model/PTree only because `DTree.replace`, `structEq`, `findNode` and `trieItems` are defined at
the end of that file.
-/
namespace IslaVerif.DTree

theorem ind {P : DTree → Prop} (leaf : ∀ i s, P (openLeaf i s))
    (node : ∀ i s ks, (∀ k ∈ ks, P k) → P (node i s ks)) : ∀ t, P t :=
  @DTree.rec P (fun ks => ∀ k ∈ ks, P k) leaf node (fun _ h => nomatch h)
    (fun _ _ hk hks _ h => by
      rcases List.mem_cons.1 h with rfl | h
      · exact hk
      · exact hks _ h)

theorem hasOpenL_eq_any (ks : List DTree) : hasOpenL ks = ks.any hasOpen := by
  induction ks with
  | nil => rfl
  | cons k ks ih => rw [hasOpenL, ih, List.any_cons]

theorem hasOpen_node (i : Nat) (s : String) (ks : List DTree) : (node i s ks).hasOpen = ks.any hasOpen := by
  rw [hasOpen, hasOpenL_eq_any]

@[simp] theorem get_nil (t : DTree) : t.get [] = some t := rfl

theorem get_cons (t : DTree) (j : Nat) (p : Path) : t.get (j :: p) = t.kids[j]?.bind (·.get p) := by
  rw [get]; cases t.kids[j]? <;> rfl

@[simp] theorem get_node_cons (i : Nat) (s : String) (ks : List DTree) (j : Nat) (p : Path) :
    (node i s ks).get (j :: p) = ks[j]?.bind (·.get p) := get_cons _ j p

theorem get_append (t : DTree) (r s : Path) : t.get (r ++ s) = (t.get r).bind (·.get s) := by
  induction r generalizing t with
  | nil => rfl
  | cons i r ih =>
    rw [List.cons_append, get_cons, get_cons]
    cases t.kids[i]? with
    | none => rfl
    | some k => exact ih k

theorem get_append_of_get {t sub : DTree} {r : Path} (h : t.get r = some sub) (s : Path) :
    t.get (r ++ s) = sub.get s := by
  rw [get_append, h, Option.bind_some]

theorem get_cons_eq_some {t u : DTree} {j : Nat} {p : Path} :
    t.get (j :: p) = some u ↔ ∃ i s ks, ∃ hj : j < ks.length, t = node i s ks ∧ ks[j].get p = some u := by
  cases t with
  | openLeaf i s =>
    constructor
    · exact nofun
    · rintro ⟨_, _, _, _, h, _⟩
      cases h
  | node i s ks =>
    rw [get_node_cons]
    constructor
    · intro h
      obtain ⟨k, hk, hu⟩ := Option.bind_eq_some_iff.1 h
      obtain ⟨hj, rfl⟩ := List.getElem?_eq_some_iff.1 hk
      exact ⟨i, s, ks, hj, rfl, hu⟩
    · rintro ⟨_, _, _, hj, h, hu⟩
      cases h
      rw [List.getElem?_eq_getElem hj]
      exact hu

theorem hasOpen_iff_get (t : DTree) :
    t.hasOpen = true ↔ ∃ q v, t.get q = some v ∧ v.isOpenLeaf = true := by
  induction t using ind with
  | leaf i s => exact ⟨fun _ => ⟨[], _, rfl, rfl⟩, fun _ => rfl⟩
  | node i s ks ih =>
    rw [hasOpen_node, List.any_eq_true]
    constructor
    · rintro ⟨k, hk, ho⟩
      obtain ⟨q, v, hq, hv⟩ := (ih k hk).1 ho
      obtain ⟨j, hj, rfl⟩ := List.getElem_of_mem hk
      exact ⟨j :: q, v, by rw [get_node_cons, List.getElem?_eq_getElem hj]; exact hq, hv⟩
    · rintro ⟨q, v, hq, hv⟩
      cases q with
      | nil => cases hq; cases hv
      | cons j q =>
        obtain ⟨_, _, _, hj, h, hq⟩ := get_cons_eq_some.1 hq
        cases h
        exact ⟨_, List.getElem_mem hj, (ih _ (List.getElem_mem hj)).2 ⟨q, v, hq, hv⟩⟩

theorem mem_pathsL_iff (ks : List DTree) (i : Nat) (r : Path) (x : DTree) :
    (r, x) ∈ pathsL ks i ↔ ∃ j k q, ks[j]? = some k ∧ (q, x) ∈ k.paths ∧ r = (i + j) :: q := by
  induction ks generalizing i with
  | nil => simp [pathsL]
  | cons k ks ih =>
    rw [pathsL, List.mem_append, ih]
    simp only [List.mem_map, Prod.mk.injEq, Prod.exists]
    constructor
    · rintro (⟨q, _, hm, rfl, rfl⟩ | ⟨j, k', q, hk, hm, rfl⟩)
      · exact ⟨0, k, q, rfl, hm, rfl⟩
      · exact ⟨j + 1, k', q, hk, hm, by rw [Nat.add_right_comm, Nat.add_assoc]⟩
    · rintro ⟨j, k', q, hk, hm, rfl⟩
      cases j with
      | zero => cases hk; exact Or.inl ⟨q, x, hm, rfl, rfl⟩
      | succ j => exact Or.inr ⟨j, k', q, hk, hm, by rw [Nat.add_right_comm, Nat.add_assoc]⟩

theorem paths_eq (t : DTree) : t.paths = ([], t) :: pathsL t.kids 0 := by cases t <;> rfl

theorem mem_paths_iff (t : DTree) (r : Path) (x : DTree) : (r, x) ∈ t.paths ↔ t.get r = some x := by
  induction r generalizing t with
  | nil =>
    rw [paths_eq, List.mem_cons, mem_pathsL_iff]
    constructor
    · rintro (e | ⟨_, _, _, _, _, e⟩)
      · cases e; rfl
      · cases e
    · intro h
      cases h
      exact Or.inl rfl
  | cons j q ih =>
    rw [paths_eq, List.mem_cons, mem_pathsL_iff, get_cons, Option.bind_eq_some_iff]
    constructor
    · rintro (e | ⟨_, k, _, hk, hm, e⟩)
      · cases e
      · cases e
        exact ⟨k, Nat.zero_add _ ▸ hk, (ih k).1 hm⟩
    · rintro ⟨k, hk, hg⟩
      exact Or.inr ⟨j, k, q, hk, (ih k).2 hg, by rw [Nat.zero_add]⟩

theorem any_paths_iff (t : DTree) (f : Path × DTree → Bool) :
    t.paths.any f = true ↔ ∃ q v, t.get q = some v ∧ f (q, v) = true := by
  rw [List.any_eq_true]
  constructor
  · rintro ⟨⟨q, v⟩, hm, hf⟩
    exact ⟨q, v, (mem_paths_iff t q v).1 hm, hf⟩
  · rintro ⟨q, v, hg, hf⟩
    exact ⟨(q, v), (mem_paths_iff t q v).2 hg, hf⟩

theorem all_paths_iff (t : DTree) (f : Path × DTree → Bool) :
    t.paths.all f = true ↔ ∀ q v, t.get q = some v → f (q, v) = true := by
  rw [List.all_eq_true]
  exact ⟨fun h q v hg => h (q, v) ((mem_paths_iff t q v).2 hg),
    fun h pu hm => h pu.1 pu.2 ((mem_paths_iff t pu.1 pu.2).1 hm)⟩

@[simp] theorem replace_nil (t u : DTree) : t.replace [] u = some u := by cases t <;> rfl

theorem replace_node_cons (i : Nat) (s : String) (ks : List DTree) (j : Nat) (p : Path) (u : DTree) :
    (node i s ks).replace (j :: p) u =
      ks[j]?.bind fun k => (k.replace p u).map fun k' => node i s (ks.set j k') := by
  rw [replace]
  cases ks[j]? with
  | none => rfl
  | some k => dsimp only [Option.bind_some]; cases k.replace p u <;> rfl

/-- used as `refine replace_ind (fun t => ?_) (fun i s ks j p k' hj hk ih => ?_) h`, after reverting what the
claim quantifies over besides `t`, `p`, `t'` -/
@[elab_as_elim]
theorem replace_ind {u : DTree} {P : DTree → Path → DTree → Prop} (nil : ∀ t, P t [] u)
    (cons : ∀ i s ks j p k' (hj : j < ks.length), ks[j].replace p u = some k' → P ks[j] p k' →
      P (node i s ks) (j :: p) (node i s (ks.set j k'))) :
    ∀ {p t t'}, t.replace p u = some t' → P t p t' := by
  intro p
  induction p with
  | nil =>
    intro t t' h
    rw [replace_nil] at h
    cases h
    exact nil t
  | cons j p ih =>
    intro t t' h
    cases t with
    | openLeaf i s => cases h
    | node i s ks =>
      rw [replace_node_cons] at h
      obtain ⟨k, hk, h⟩ := Option.bind_eq_some_iff.1 h
      obtain ⟨k', hk', rfl⟩ := Option.map_eq_some_iff.1 h
      obtain ⟨hj, rfl⟩ := List.getElem?_eq_some_iff.1 hk
      exact cons i s ks j p k' hj hk' (ih hk')

theorem replace_get_below (t t' u : DTree) (p q : Path) (h : t.replace p u = some t') :
    t'.get (p ++ q) = u.get q := by
  refine replace_ind (fun _ => rfl) (fun i s ks j p k' hj _ ih => ?_) h
  rw [List.cons_append, get_node_cons, List.getElem?_set_self hj]
  exact ih

theorem replace_get_disjoint (t t' u : DTree) (p q : Path) (h : t.replace p u = some t')
    (h1 : ¬ p <+: q) (h2 : ¬ q <+: p) : t'.get q = t.get q := by
  revert q
  refine replace_ind (fun _ q h1 _ => absurd List.nil_prefix h1) (fun i s ks j p k' hj _ ih q h1 h2 => ?_) h
  cases q with
  | nil => exact absurd List.nil_prefix h2
  | cons j' q =>
    rw [get_node_cons, get_node_cons]
    by_cases hjj : j = j'
    · subst j'
      rw [List.cons_prefix_cons] at h1 h2
      rw [List.getElem?_set_self hj, List.getElem?_eq_getElem hj]
      exact ih q (fun h => h1 ⟨rfl, h⟩) (fun h => h2 ⟨rfl, h⟩)
    · rw [List.getElem?_set_ne hjj]

end IslaVerif.DTree
