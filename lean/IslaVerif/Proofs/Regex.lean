import IslaVerif.Proofs.RegexLang
/-
The derivative matcher decides the denotation `Lang`. `star`, `plus` and `loop` are one notion, `Iter L p`: a
concatenation of `k` words of `L` for some `k` with `p k`. Taking the first character off such a word takes it off
one factor and leaves one factor fewer (`iter_cons`: `p` becomes `fun k => p (k + 1)`), which is what `deriv` does to
all three; the empty word is such a concatenation if `p 0`, or if `L` has the empty word (`iter_nil`).
-/
namespace IslaVerif.Re

theorem langAny_iff (rs : List Re) (w : List Char) : LangAny rs w ↔ ∃ r ∈ rs, Lang r w := by
  induction rs with
  | nil => simp [LangAny]
  | cons a t ih => simp [LangAny, ih]

theorem langCat_single (r : Re) (w : List Char) : LangCat [r] w ↔ Lang r w := by
  simp only [LangCat]
  constructor
  · rintro ⟨u, v, rfl, h, rfl⟩; simpa using h
  · intro h; exact ⟨w, [], by simp, h, rfl⟩

theorem langCat_append (l₁ l₂ : List Re) (w : List Char) :
    LangCat (l₁ ++ l₂) w ↔ ∃ u v, w = u ++ v ∧ LangCat l₁ u ∧ LangCat l₂ v := by
  induction l₁ generalizing w with
  | nil =>
    simp only [List.nil_append, LangCat]
    constructor
    · intro h; exact ⟨[], w, rfl, rfl, h⟩
    · rintro ⟨u, v, rfl, rfl, h⟩; exact h
  | cons r l ih =>
    simp only [List.cons_append, LangCat, ih]
    constructor
    · rintro ⟨u, v, rfl, hr, u', v', rfl, h1, h2⟩
      exact ⟨u ++ u', v', by simp, ⟨u, u', rfl, hr, h1⟩, h2⟩
    · rintro ⟨u, v, rfl, ⟨u1, u2, rfl, hr, h1⟩, h2⟩
      exact ⟨u1, u2 ++ v, by simp, hr, u2, v, rfl, h1, h2⟩

theorem langCat_cons_cons (r : Re) (rs : List Re) (c : Char) (w : List Char) :
    LangCat (r :: rs) (c :: w) ↔
      (Lang r [] ∧ LangCat rs (c :: w)) ∨ ∃ u v, w = u ++ v ∧ Lang r (c :: u) ∧ LangCat rs v := by
  rw [LangCat]
  constructor
  · rintro ⟨u, v, huv, h1, h2⟩
    cases u with
    | nil => exact .inl ⟨h1, huv ▸ h2⟩
    | cons d u =>
      obtain ⟨rfl, rfl⟩ := List.cons.inj huv
      exact .inr ⟨u, v, rfl, h1, h2⟩
  · rintro (⟨h1, h2⟩ | ⟨u, v, rfl, h1, h2⟩)
    · exact ⟨[], c :: w, rfl, h1, h2⟩
    · exact ⟨c :: u, v, rfl, h1, h2⟩

def Iter (L : List Char → Prop) (p : Nat → Prop) (w : List Char) : Prop :=
  ∃ ws : List (List Char), p ws.length ∧ w = ws.flatten ∧ ∀ x ∈ ws, L x

theorem lang_star_iter (r : Re) (w : List Char) : Lang (star r) w ↔ Iter (Lang r) (fun _ => True) w :=
  exists_congr fun _ => (and_iff_right trivial).symm

theorem lang_plus_iter (r : Re) (w : List Char) : Lang (plus r) w ↔ Iter (Lang r) (0 < ·) w :=
  exists_congr fun _ => and_congr_left' List.length_pos_iff.symm

theorem lang_loop_iter (r : Re) (lo hi : Nat) (w : List Char) :
    Lang (loop r lo hi) w ↔ Iter (Lang r) (fun k => lo ≤ k ∧ k ≤ hi) w :=
  exists_congr fun _ => and_assoc.symm

theorem iter_congr {L : List Char → Prop} {p q : Nat → Prop} (h : ∀ k, p k ↔ q k) (w : List Char) :
    Iter L p w ↔ Iter L q w :=
  exists_congr fun ws => and_congr_left' (h ws.length)

/-- a flattening that starts with `c` has a first non-empty factor `c :: u`; the empty factors in
front of it are moved behind it, so the number of factors is preserved -/
theorem iter_cons_split {L : List Char → Prop} {c : Char} {w : List Char} (p : Nat → Prop)
    (ws : List (List Char)) (hp : p ws.length) (h : ws.flatten = c :: w) (hL : ∀ x ∈ ws, L x) :
    ∃ u v, w = u ++ v ∧ L (c :: u) ∧ Iter L (fun k => p (k + 1)) v := by
  induction ws generalizing p with
  | nil => simp at h
  | cons x rest ih =>
    cases x with
    | nil =>
      obtain ⟨u, v, hw, hu, ws', hp', hv, hL'⟩ := ih (fun k => p (k + 1)) hp
        (by simpa using h) (fun x hx => hL x (List.mem_cons_of_mem _ hx))
      exact ⟨u, v, hw, hu, [] :: ws', hp', by simpa using hv,
        List.forall_mem_cons.2 ⟨hL _ List.mem_cons_self, hL'⟩⟩
    | cons d u =>
      obtain ⟨rfl, rfl⟩ := List.cons.inj h
      exact ⟨u, rest.flatten, rfl, hL _ List.mem_cons_self, rest, hp, rfl,
        fun x hx => hL x (List.mem_cons_of_mem _ hx)⟩

theorem iter_cons {L : List Char → Prop} {p : Nat → Prop} {c : Char} {w : List Char} :
    Iter L p (c :: w) ↔ ∃ u v, w = u ++ v ∧ L (c :: u) ∧ Iter L (fun k => p (k + 1)) v := by
  constructor
  · rintro ⟨ws, hp, hfl, hL⟩
    exact iter_cons_split p ws hp hfl.symm hL
  · rintro ⟨u, v, rfl, hu, ws, hp, rfl, hL⟩
    exact ⟨(c :: u) :: ws, hp, by simp, List.forall_mem_cons.2 ⟨hu, hL⟩⟩

theorem iter_cat {L : List Char → Prop} {p q : Nat → Prop} {w : List Char} :
    (∃ u v, w = u ++ v ∧ Iter L p u ∧ Iter L q v) ↔ Iter L (fun k => ∃ i j, k = i + j ∧ p i ∧ q j) w := by
  constructor
  · rintro ⟨_, _, rfl, ⟨ws1, h1, rfl, m1⟩, ⟨ws2, h2, rfl, m2⟩⟩
    exact ⟨ws1 ++ ws2, ⟨_, _, List.length_append, h1, h2⟩, List.flatten_append.symm,
      fun x hx => (List.mem_append.1 hx).elim (m1 x) (m2 x)⟩
  · rintro ⟨ws, ⟨i, j, hk, hp, hq⟩, rfl, m⟩
    refine ⟨(ws.take i).flatten, (ws.drop i).flatten, by rw [← List.flatten_append, List.take_append_drop],
      ⟨ws.take i, ?_, rfl, fun x hx => m x (List.mem_of_mem_take hx)⟩,
      ⟨ws.drop i, ?_, rfl, fun x hx => m x (List.mem_of_mem_drop hx)⟩⟩
    · rwa [List.length_take, hk, Nat.min_eq_left (Nat.le_add_right i j)]
    · rwa [List.length_drop, hk, Nat.add_sub_cancel_left]

theorem iter_nil {L : List Char → Prop} {p : Nat → Prop} : Iter L p [] ↔ p 0 ∨ (L [] ∧ ∃ k, p k) := by
  constructor
  · rintro ⟨ws, hp, hfl, hL⟩
    cases ws with
    | nil => exact .inl hp
    | cons x ws =>
      obtain rfl : x = [] := (List.append_eq_nil_iff.1 hfl.symm).1
      exact .inr ⟨hL _ List.mem_cons_self, _, hp⟩
  · rintro (h | ⟨h, k, hk⟩)
    · exact ⟨[], h, rfl, fun _ hx => nomatch hx⟩
    · exact ⟨List.replicate k [], by simpa using hk, by simp,
        fun x hx => List.eq_of_mem_replicate hx ▸ h⟩

/- in the arms without recursion both sides reduce by definition and the terms say why the proposition holds or
fails; a `simp [nullable, Lang]` per arm would go through the equation lemmas of two nested definitions of
fourteen arms each -/
mutual
theorem nullable_iff : ∀ r : Re, nullable r = true ↔ Lang r []
  | .str _ => List.isEmpty_iff.trans eq_comm
  | .range _ _ => iff_of_false Bool.false_ne_true fun ⟨_, h, _⟩ => nomatch h
  | .allchar => iff_of_false Bool.false_ne_true fun ⟨_, h⟩ => nomatch h
  | .all => iff_of_true rfl trivial
  | .none => iff_of_false Bool.false_ne_true id
  | .union rs => nullableAny_iff_aux rs
  | .concat rs => nullableCat_iff_aux rs
  | .star _ => iff_of_true rfl ⟨[], rfl, fun _ h => nomatch h⟩
  | .plus r => by
      unfold nullable
      rw [lang_plus_iter, iter_nil, ← nullable_iff r]
      constructor
      · intro h
        exact .inr ⟨h, 1, Nat.one_pos⟩
      · rintro (h | ⟨h, -⟩)
        · exact absurd h (Nat.lt_irrefl 0)
        · exact h
  | .opt _ => iff_of_true rfl (.inl rfl)
  | .loop r lo hi => by
      unfold nullable
      rw [lang_loop_iter, iter_nil, ← nullable_iff r]
      by_cases hlt : hi < lo
      · rw [if_pos hlt]
        refine iff_of_false Bool.false_ne_true ?_
        rintro (h | ⟨-, k, h⟩) <;> omega
      · rw [if_neg hlt]
        have hk : ∃ k, lo ≤ k ∧ k ≤ hi := ⟨lo, Nat.le_refl _, Nat.le_of_not_lt hlt⟩
        rw [Bool.or_eq_true_iff, beq_iff_eq, and_iff_left hk]
        exact or_congr_left ⟨fun h => ⟨Nat.le_of_eq h, Nat.zero_le _⟩, fun h => Nat.le_zero.1 h.1⟩
  | .comp r => Bool.not_eq.trans (not_congr (nullable_iff r))
  | .inter rs => nullableAll_iff_aux rs
  | .diff a b => Bool.and_eq_true_iff.trans
      (and_congr (nullable_iff a) (Bool.not_eq.trans (not_congr (nullable_iff b))))
theorem nullableAny_iff_aux : ∀ rs : List Re, nullableAny rs = true ↔ LangAny rs []
  | [] => iff_of_false Bool.false_ne_true id
  | r :: rs => Bool.or_eq_true_iff.trans (or_congr (nullable_iff r) (nullableAny_iff_aux rs))
theorem nullableAll_iff_aux : ∀ rs : List Re, nullableAll rs = true ↔ LangAll rs []
  | [] => iff_of_true rfl trivial
  | r :: rs => Bool.and_eq_true_iff.trans (and_congr (nullable_iff r) (nullableAll_iff_aux rs))
/-- the model has no `nullableCat`: a concatenation has the empty word when all its factors have it -/
theorem nullableCat_iff_aux : ∀ rs : List Re, nullableAll rs = true ↔ LangCat rs []
  | [] => iff_of_true rfl rfl
  | r :: rs => by
      refine Bool.and_eq_true_iff.trans ((and_congr (nullable_iff r) (nullableCat_iff_aux rs)).trans ?_)
      constructor
      · rintro ⟨h1, h2⟩
        exact ⟨[], [], rfl, h1, h2⟩
      · rintro ⟨u, v, huv, h1, h2⟩
        obtain ⟨rfl, rfl⟩ := List.append_eq_nil_iff.1 huv.symm
        exact ⟨h1, h2⟩
end

theorem deriv_iter {c : Char} {r q : Re} {p : Nat → Prop} (ih : ∀ u, Lang (deriv c r) u ↔ Lang r (c :: u))
    (hq : ∀ v, Lang q v ↔ Iter (Lang r) (fun k => p (k + 1)) v) (w : List Char) :
    Lang (concat [deriv c r, q]) w ↔ Iter (Lang r) p (c :: w) := by
  unfold Lang LangCat
  rw [iter_cons]
  simp only [langCat_single, ih, hq]

mutual
theorem deriv_iff (c : Char) : ∀ (r : Re) (w : List Char), Lang (deriv c r) w ↔ Lang r (c :: w)
  | .str [], w => iff_of_false id (List.cons_ne_nil c w)
  | .str (a :: s), w => by
      unfold deriv
      split
      · next h =>
        rw [← eq_of_beq h]
        exact (List.cons_inj_right a).symm
      · next h => exact iff_of_false id fun hw => h (beq_iff_eq.2 (List.cons.inj hw).1.symm)
  | .range lo hi, w => by
      unfold deriv
      split
      · next h => exact ⟨fun hw => ⟨c, by rw [hw], h⟩, fun ⟨_, hd, _⟩ => (List.cons.inj hd).2⟩
      · next h =>
        refine iff_of_false id ?_
        rintro ⟨d, hd, hr⟩
        obtain ⟨rfl, -⟩ := List.cons.inj hd
        exact h hr
  | .allchar, w => ⟨fun hw => ⟨c, by rw [hw]⟩, fun ⟨_, hd⟩ => (List.cons.inj hd).2⟩
  | .all, w => Iff.rfl
  | .none, w => Iff.rfl
  | .union rs, w => derivAny_iff_aux c rs w
  | .concat rs, w => derivConcat_iff_aux c rs w
  | .star r, w => (deriv_iter (deriv_iff c r) (lang_star_iter r) w).trans (lang_star_iter r _).symm
  | .plus r, w => by
      -- `deriv c` gives `plus r` what it gives `star r`: any number `k` of factors may remain, and `k + 1` is positive
      have hq (v : List Char) : Lang (star r) v ↔ Iter (Lang r) (fun k => 0 < k + 1) v :=
        (lang_star_iter r v).trans (iter_congr (fun k => (iff_true_intro k.succ_pos).symm) v)
      rw [lang_plus_iter]
      exact deriv_iter (deriv_iff c r) hq w
  | .opt r, w => (deriv_iff c r w).trans (or_iff_right (List.cons_ne_nil c w)).symm
  | .loop r lo hi, w => by
      rw [lang_loop_iter]
      unfold deriv
      split
      · next h =>
        simp only [Bool.or_eq_true, decide_eq_true_eq, beq_iff_eq] at h
        rw [iter_cons]
        refine iff_of_false (fun h => h) ?_
        rintro ⟨u, v, -, -, ws, hk, -⟩
        omega
      · next h =>
        simp only [Bool.or_eq_true, decide_eq_true_eq, beq_iff_eq, not_or] at h
        -- one factor fewer: `lo - 1 ≤ k ↔ lo ≤ k + 1` and, since `hi ≠ 0`, `k ≤ hi - 1 ↔ k + 1 ≤ hi`
        have hk (k : Nat) : lo - 1 ≤ k ∧ k ≤ hi - 1 ↔ lo ≤ k + 1 ∧ k + 1 ≤ hi :=
          and_congr Nat.sub_le_iff_le_add (Nat.le_sub_one_iff_lt (Nat.pos_of_ne_zero h.2))
        exact deriv_iter (deriv_iff c r) (fun v => (lang_loop_iter r _ _ v).trans (iter_congr hk v)) w
  | .comp r, w => not_congr (deriv_iff c r w)
  | .inter rs, w => derivAll_iff_aux c rs w
  | .diff a b, w => and_congr (deriv_iff c a w) (not_congr (deriv_iff c b w))
theorem derivAny_iff_aux (c : Char) : ∀ (rs : List Re) (w : List Char),
    LangAny (derivL c rs) w ↔ LangAny rs (c :: w)
  | [], _ => Iff.rfl
  | r :: rs, w => or_congr (deriv_iff c r w) (derivAny_iff_aux c rs w)
theorem derivAll_iff_aux (c : Char) : ∀ (rs : List Re) (w : List Char),
    LangAll (derivL c rs) w ↔ LangAll rs (c :: w)
  | [], _ => Iff.rfl
  | r :: rs, w => and_congr (deriv_iff c r w) (derivAll_iff_aux c rs w)
theorem derivConcat_iff_aux (c : Char) : ∀ (rs : List Re) (w : List Char),
    Lang (derivConcat c rs) w ↔ LangCat rs (c :: w)
  | [], w => iff_of_false id (List.cons_ne_nil c w)
  | r :: rs, w => by
      have hd : Lang (concat (deriv c r :: rs)) w ↔ ∃ u v, w = u ++ v ∧ Lang r (c :: u) ∧ LangCat rs v :=
        exists₂_congr fun u _ => and_congr_right' (and_congr_left' (deriv_iff c r u))
      unfold derivConcat
      rw [langCat_cons_cons, ← nullable_iff r, ← derivConcat_iff_aux c rs w, ← hd]
      split
      · next hn =>
        simp only [Lang, LangAny, or_false, hn, true_and]
        exact or_comm
      · next hn => simp only [hn, Bool.false_eq_true, false_and, false_or]
end

theorem matchB_iff' (r : Re) (w : List Char) : matchB r w = true ↔ Lang r w := by
  induction w generalizing r with
  | nil => exact nullable_iff r
  | cons c cs ih =>
    simp only [matchB]
    rw [ih, deriv_iff]

end IslaVerif.Re
