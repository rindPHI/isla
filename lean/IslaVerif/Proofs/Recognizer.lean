import IslaVerif.Model.Grammar
/-
The two halves from which `C10.recognize_iff` follows, against the declarative, position-based
derivation relation `Der`: every fact the rounds of `Rec.iter` produce is a derivation (`iter_sound`,
induction on the rounds), and a fact set that passed the closure check contains every derivation
(`der_complete`, induction on the derivation).
-/
namespace IslaVerif.Rec
open Grammar

mutual
/-- `Der g s A i j`: the nonterminal `A` derives the window `s[i..j)` of `s`, by one of its alternatives.
`DerSeq g s alt i j`: the symbols of `alt` derive adjacent windows from `i` to `j`; for a terminal the end
`k` of its window is forced by `termAt`, for a nonterminal it is any `k` with `Der g s X i k`. -/
inductive Der (g : Grammar) (s : List Char) : String → Nat → Nat → Prop
  | mk {A as alt i j} : alts g A = some as → alt ∈ as → DerSeq g s alt i j → Der g s A i j
inductive DerSeq (g : Grammar) (s : List Char) : List String → Nat → Nat → Prop
  | nil {i} : DerSeq g s [] i i
  | consT {X rest i k j} : isNT g X = false → termAt s X i k = true → DerSeq g s rest k j → DerSeq g s (X :: rest) i j
  | consN {X rest i k j} : isNT g X = true → Der g s X i k → DerSeq g s rest k j → DerSeq g s (X :: rest) i j
end

theorem termAt_iff {s : List Char} {x : String} {i k : Nat} :
    termAt s x i k = true ↔ k = i + x.toList.length ∧ (s.drop i).take x.toList.length = x.toList := by
  rw [termAt, Bool.and_eq_true, beq_iff_eq, beq_iff_eq]

theorem termAt_bounds {s : List Char} {x : String} {i k : Nat} (h : termAt s x i k = true) (hi : i ≤ s.length) :
    i ≤ k ∧ k ≤ s.length := by
  obtain ⟨rfl, ht⟩ := termAt_iff.1 h
  have hl := congrArg List.length ht
  -- `hl`: the window is as long as `x`, so `x` fits into what is left of `s` after `i`
  rw [List.length_take, List.length_drop] at hl
  omega

theorem matchSeq_nil {g s R i j} : matchSeq g s R [] i j = true ↔ i = j := by
  rw [matchSeq, beq_iff_eq]

theorem matchSeq_cons {g s R X rest i j} :
    matchSeq g s R (X :: rest) i j = true ↔ ∃ k, i ≤ k ∧ k ≤ j ∧
      (if isNT g X then R.contains (X, i, k) else termAt s X i k) = true ∧
      matchSeq g s R rest k j = true := by
  simp only [matchSeq, List.any_eq_true, List.mem_range, Bool.and_eq_true, decide_eq_true_eq, Nat.lt_succ_iff]
  constructor
  · rintro ⟨k, hk, ⟨hik, hx⟩, hr⟩
    exact ⟨k, hik, hk, hx, hr⟩
  · rintro ⟨k, hik, hk, hx, hr⟩
    exact ⟨k, hk, ⟨hik, hx⟩, hr⟩

theorem derivable_iff {g s R A i j} :
    derivable g s R (A, i, j) = true ↔ ∃ as alt, alts g A = some as ∧ alt ∈ as ∧ matchSeq g s R alt i j = true := by
  unfold derivable
  cases alts g A with
  | none => simp
  | some as => simp only [List.any_eq_true, Option.some.injEq, exists_and_left, exists_eq_left']

def Sound (g : Grammar) (s : List Char) (R : List Fact) : Prop := ∀ f ∈ R, Der g s f.1 f.2.1 f.2.2

theorem matchSeq_sound {g s R} (hR : Sound g s R) (alt : List String) (i j : Nat)
    (h : matchSeq g s R alt i j = true) : DerSeq g s alt i j := by
  induction alt generalizing i with
  | nil => exact matchSeq_nil.1 h ▸ .nil
  | cons X rest ih =>
    obtain ⟨k, _, _, hx, hr⟩ := matchSeq_cons.1 h
    cases hnt : isNT g X with
    | true =>
      rw [hnt, if_pos rfl, List.contains_iff_mem] at hx
      exact .consN hnt (hR _ hx) (ih k hr)
    | false =>
      rw [hnt] at hx
      exact .consT hnt hx (ih k hr)

theorem newFacts_sound {g s R} (hR : Sound g s R) : Sound g s (R ++ newFacts g s R) := by
  intro f hf
  rcases List.mem_append.1 hf with hf | hf
  · exact hR _ hf
  · obtain ⟨as, alt, has, halt, hm⟩ := derivable_iff.1 (Bool.and_eq_true_iff.1 (List.mem_filter.1 hf).2).2
    exact .mk has halt (matchSeq_sound hR _ _ _ hm)

theorem iter_sound {g s} (n : Nat) (R : List Fact) (h : Sound g s R) : Sound g s (iter g s n R) := by
  induction n generalizing R with
  | zero => exact h
  | succ n ih =>
    rw [iter]
    split
    · exact h
    · exact ih _ (newFacts_sound h)

theorem derSeq_bounds {g s alt i j} (h : DerSeq g s alt i j) (hi : i ≤ s.length) : i ≤ j ∧ j ≤ s.length := by
  induction h using DerSeq.rec (motive_1 := fun _ i j _ => i ≤ s.length → i ≤ j ∧ j ≤ s.length) with
  | mk _ _ _ ih hi => exact ih hi
  | nil => exact ⟨Nat.le_refl _, hi⟩
  | consT _ ht _ ih =>
    have h1 := termAt_bounds ht hi
    have h2 := ih h1.2
    exact ⟨Nat.le_trans h1.1 h2.1, h2.2⟩
  | consN _ _ _ ih1 ih2 =>
    have h1 := ih1 hi
    have h2 := ih2 h1.2
    exact ⟨Nat.le_trans h1.1 h2.1, h2.2⟩

theorem der_bounds {g s A i j} : Der g s A i j → i ≤ s.length → i ≤ j ∧ j ≤ s.length := by
  rintro ⟨_, _, hs⟩
  exact derSeq_bounds hs

theorem mem_allFacts {g : Grammar} {n A i j as} (hA : alts g A = some as) (hi : i ≤ n) (hj : j ≤ n) :
    (A, i, j) ∈ allFacts g n := by
  obtain ⟨g₁, g₂, rfl, _⟩ := List.lookup_eq_some_iff.1 hA
  simp only [allFacts, List.mem_flatMap, List.mem_map, List.mem_range]
  exact ⟨(A, as), List.mem_append_right _ List.mem_cons_self, i, Nat.lt_succ_of_le hi, j, Nat.lt_succ_of_le hj, rfl⟩

theorem mem_of_closedUnder {g s R} (hc : closedUnder g s R = true) {f : Fact} (hmem : f ∈ allFacts g s.length)
    (hd : derivable g s R f = true) : f ∈ R := by
  have := List.all_eq_true.1 hc f hmem
  rw [hd, Bool.not_true, Bool.or_false] at this
  exact List.contains_iff_mem.1 this

theorem der_complete {g s R} (hc : closedUnder g s R = true) {A i j} (h : Der g s A i j) (hi : i ≤ s.length) :
    (A, i, j) ∈ R := by
  induction h using Der.rec (motive_2 := fun alt i j _ => i ≤ s.length → matchSeq g s R alt i j = true) with
  | mk has halt hs ih =>
    exact mem_of_closedUnder hc (mem_allFacts has hi (derSeq_bounds hs hi).2) (derivable_iff.2 ⟨_, _, has, halt, ih hi⟩)
  | nil => exact matchSeq_nil.2 rfl
  | consT hnt ht hr ih hi =>
    have h1 := termAt_bounds ht hi
    exact matchSeq_cons.2 ⟨_, h1.1, (derSeq_bounds hr h1.2).1, by rw [hnt]; exact ht, ih h1.2⟩
  | consN hnt hd hr ih1 ih2 hi =>
    have h1 := der_bounds hd hi
    exact matchSeq_cons.2 ⟨_, h1.1, (derSeq_bounds hr h1.2).1,
      by rw [hnt, if_pos rfl]; exact List.contains_iff_mem.2 (ih1 hi), ih2 h1.2⟩

end IslaVerif.Rec
