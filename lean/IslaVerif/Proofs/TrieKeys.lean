import IslaVerif.Model.PTree
/-
The key codec of `trie.py` on its own (nothing here is about trees): a path element is one code point or an
escape followed by a fixed number of digits, so codes are prefix-free (`code_prefix`); that gives decoding
and "prefix of paths iff prefix of keys". The generated constants enter through five inequalities
(`trie_consts`) only.
-/
namespace IslaVerif.C16

/-- the child indices that have a key: below `singleLimit` an index is one code point; from there on it is
the escape character and `numDigits` digits to base `base` of `i - singleLimit`, which must be below
`base ^ numDigits` (`_encode_path_element` raises `ValueError` otherwise) -/
def keyBound : Nat := PTree.singleLimit + PTree.base ^ PTree.numDigits

open IslaVerif.PTree (digitsBE encodeElem encodeKey decodeChars decodeKey base numDigits singleLimit escapeChar)

/-- all that the key lemmas use of the generated constants; it is checked again whenever they are
regenerated from `trie.py` -/
theorem trie_consts : 0 < base ∧ singleLimit + 2 ≤ escapeChar ∧ base + 1 ≤ Generated.Trie.alphabetHi ∧
    escapeChar ≤ Generated.Trie.alphabetHi ∧ Generated.Trie.alphabetLo ≤ 1 := by decide

theorem digitsBE_length (b k r : Nat) : (digitsBE b k r).length = k := by
  induction k with
  | zero => rfl
  | succ k ih => rw [digitsBE, List.length_cons, ih]

theorem digitsBE_range (b k r : Nat) (hb : 0 < b) : ∀ d ∈ digitsBE b k r, 2 ≤ d ∧ d < b + 2 := by
  induction k with
  | zero => exact nofun
  | succ k ih =>
    intro d hd
    rcases List.mem_cons.1 hd with rfl | hd
    · exact ⟨Nat.le_add_left .., Nat.add_lt_add_right (Nat.mod_lt _ hb) 2⟩
    · exact ih d hd

theorem digitsBE_foldl (b k r a : Nat) :
    (digitsBE b k r).foldl (fun acc d => acc * b + (d - 2)) a = a * b ^ k + r % b ^ k := by
  induction k generalizing a with
  | zero => rw [digitsBE, List.foldl_nil, Nat.pow_zero, Nat.mod_one, Nat.mul_one, Nat.add_zero]
  | succ k ih =>
    -- `r % b ^ (k + 1) = r % b ^ k + b ^ k * (r / b ^ k % b)`, and the leading digit is `r / b ^ k % b`
    rw [digitsBE, List.foldl_cons, ih, Nat.add_sub_cancel, Nat.mod_pow_succ, Nat.add_mul, Nat.pow_succ]
    ac_rfl

theorem digitsBE_foldl_of_lt {b k r : Nat} (h : r < b ^ k) :
    (digitsBE b k r).foldl (fun acc d => acc * b + (d - 2)) 0 = r := by
  rw [digitsBE_foldl, Nat.zero_mul, Nat.zero_add, Nat.mod_eq_of_lt h]

theorem encodeElem_eq (i : Nat) : encodeElem i =
    if i < singleLimit then some [i + 2]
    else if base ^ numDigits ≤ i - singleLimit then none
    else some (escapeChar :: digitsBE base numDigits (i - singleLimit)) := rfl

theorem encodeElem_cases {i : Nat} {c : List Nat} (h : encodeElem i = some c) :
    (i < singleLimit ∧ c = [i + 2]) ∨
    (singleLimit ≤ i ∧ i - singleLimit < base ^ numDigits ∧
      c = escapeChar :: digitsBE base numDigits (i - singleLimit)) := by
  rw [encodeElem_eq] at h
  split at h
  · next h1 =>
    cases h
    exact Or.inl ⟨h1, rfl⟩
  · next h1 =>
    split at h
    · cases h
    · next h2 =>
      cases h
      exact Or.inr ⟨Nat.le_of_not_lt h1, Nat.lt_of_not_le h2, rfl⟩

theorem encodeElem_isSome {i : Nat} (h : i < keyBound) : ∃ c, encodeElem i = some c := by
  by_cases h1 : i < singleLimit
  · exact ⟨_, (encodeElem_eq i).trans (if_pos h1)⟩
  · have h2 : ¬ base ^ numDigits ≤ i - singleLimit :=
      Nat.not_le.2 (Nat.sub_lt_left_of_lt_add (Nat.le_of_not_lt h1) h)
    exact ⟨_, (encodeElem_eq i).trans ((if_neg h1).trans (if_neg h2))⟩

/-- the `(p.mapM encodeElem).map List.flatten` inside `PTree.encodeKey` as a recursion on the path
(`encodeKey_eq`) -/
def encFlat : Path → Option (List Nat)
  | [] => some []
  | i :: p =>
    match encodeElem i, encFlat p with
    | some c, some r => some (c ++ r)
    | _, _ => none

theorem encodeKey_eq (p : Path) : encodeKey p = (encFlat p).map (fun l => 1 :: l) := by
  have : ∀ p : Path, (p.mapM encodeElem).map List.flatten = encFlat p := by
    intro p
    induction p with
    | nil => rfl
    | cons i p ih =>
      rw [encFlat, ← ih, List.mapM_cons]
      cases encodeElem i <;> cases p.mapM encodeElem <;> rfl
  rw [← this]
  cases p with
  | nil => rfl
  | cons i p =>
    show ((i :: p).mapM encodeElem).map (fun l => 1 :: l.flatten) = _
    rw [Option.map_map]; rfl

theorem encFlat_cons {i : Nat} {p : Path} {k : List Nat} (h : encFlat (i :: p) = some k) :
    ∃ c r, encodeElem i = some c ∧ encFlat p = some r ∧ k = c ++ r := by
  rw [encFlat] at h
  split at h
  · cases h; exact ⟨_, _, ‹_›, ‹_›, rfl⟩
  · cases h

theorem encodeKey_some {p : Path} {k : List Nat} (h : encodeKey p = some k) :
    ∃ cs, encFlat p = some cs ∧ k = 1 :: cs := by
  rw [encodeKey_eq] at h
  obtain ⟨cs, hcs, rfl⟩ := Option.map_eq_some_iff.1 h
  exact ⟨cs, hcs, rfl⟩

theorem single_ne_escape {i : Nat} (h : i < singleLimit) : i + 2 ≠ escapeChar :=
  Nat.ne_of_lt (Nat.lt_of_lt_of_le (Nat.add_lt_add_right h 2) trie_consts.2.1)

theorem encFlat_range (p : Path) : ∀ (cs : List Nat), encFlat p = some cs →
    ∀ c ∈ cs, 2 ≤ c ∧ c ≤ Generated.Trie.alphabetHi := by
  obtain ⟨hb, h1, h2, h3, _⟩ := trie_consts
  induction p with
  | nil =>
    intro cs h
    cases h
    exact nofun
  | cons i p ih =>
    intro cs h c hm
    obtain ⟨ci, r, hc, hr, rfl⟩ := encFlat_cons h
    rcases List.mem_append.1 hm with hm | hm
    · rcases encodeElem_cases hc with ⟨hi, rfl⟩ | ⟨_, _, rfl⟩
      · -- a single code point: `i + 2 < singleLimit + 2 ≤ escapeChar ≤ alphabetHi`
        cases List.mem_singleton.1 hm
        omega
      · rcases List.mem_cons.1 hm with rfl | hm
        · -- the escape character: `2 ≤ singleLimit + 2 ≤ escapeChar ≤ alphabetHi`
          omega
        · -- a digit: `2 ≤ c < base + 2 ≤ alphabetHi + 1`
          have := digitsBE_range _ _ _ hb c hm
          omega
    · exact ih r hr c hm

theorem decodeChars_encFlat (p : Path) : ∀ (cs : List Nat), encFlat p = some cs →
    ∀ fuel, cs.length ≤ fuel → decodeChars fuel cs = p := by
  induction p with
  | nil =>
    intro cs h fuel _
    cases h
    cases fuel <;> rfl
  | cons i p ih =>
    intro cs h fuel hf
    obtain ⟨c, r, hc, hr, rfl⟩ := encFlat_cons h
    -- a code has at least one character, so `hf : r.length + c.length ≤ fuel` leaves fuel for `r` after one step
    rw [List.length_append, Nat.add_comm] at hf
    rcases encodeElem_cases hc with ⟨hi, rfl⟩ | ⟨hi, hi2, rfl⟩
    · cases fuel with
      | zero => cases hf
      | succ fuel =>
        rw [List.singleton_append, decodeChars, if_pos (bne_iff_ne.2 (single_ne_escape hi)),
          ih r hr fuel (Nat.le_of_succ_le_succ hf), Nat.add_sub_cancel]
    · have hl := digitsBE_length base numDigits (i - singleLimit)
      cases fuel with
      | zero => cases hf
      | succ fuel =>
        rw [List.cons_append, decodeChars, if_neg (by simp)]
        dsimp only
        rw [List.take_left' hl, List.drop_left' hl, digitsBE_foldl_of_lt hi2,
          ih r hr fuel (Nat.le_trans (Nat.le_add_right ..) (Nat.le_of_succ_le_succ hf)), Nat.sub_add_cancel hi]

theorem code_prefix {i j : Nat} {ci cj A B : List Nat} (hi : encodeElem i = some ci)
    (hj : encodeElem j = some cj) : ci ++ A <+: cj ++ B ↔ i = j ∧ A <+: B := by
  constructor
  · intro h
    -- a single code point is below the escape character, so the two codes are of the same kind
    rcases encodeElem_cases hi with ⟨hi1, rfl⟩ | ⟨hi1, hi2, rfl⟩
    · rcases encodeElem_cases hj with ⟨hj1, rfl⟩ | ⟨hj1, hj2, rfl⟩
      · rw [List.singleton_append, List.singleton_append, List.cons_prefix_cons] at h
        exact ⟨Nat.add_right_cancel h.1, h.2⟩
      · rw [List.singleton_append, List.cons_append, List.cons_prefix_cons] at h
        exact absurd h.1 (single_ne_escape hi1)
    · rcases encodeElem_cases hj with ⟨hj1, rfl⟩ | ⟨hj1, hj2, rfl⟩
      · rw [List.singleton_append, List.cons_append, List.cons_prefix_cons] at h
        exact absurd h.1.symm (single_ne_escape hj1)
      · -- two escaped codes have the same number of digits, and the digits determine the number
        rw [List.cons_append, List.cons_append, List.cons_prefix_cons,
          List.prefix_append_inj_of_length_eq (by rw [digitsBE_length, digitsBE_length])] at h
        have := digitsBE_foldl_of_lt hi2
        rw [h.2.1, digitsBE_foldl_of_lt hj2] at this
        exact ⟨by rw [← Nat.sub_add_cancel hi1, ← this, Nat.sub_add_cancel hj1], h.2.2⟩
  · rintro ⟨rfl, h⟩
    cases hi.symm.trans hj
    exact (List.prefix_append_right_inj _).2 h

theorem encFlat_prefix (p : Path) : ∀ (q : Path) (a b : List Nat), encFlat p = some a → encFlat q = some b →
    (p <+: q ↔ a <+: b) := by
  induction p with
  | nil =>
    intro q a b ha hb
    cases ha
    exact ⟨fun _ => List.nil_prefix, fun _ => List.nil_prefix⟩
  | cons i p ih =>
    intro q a b ha hb
    obtain ⟨ci, a', hci, ha', rfl⟩ := encFlat_cons ha
    cases q with
    | nil =>
      cases hb
      rcases encodeElem_cases hci with ⟨_, rfl⟩ | ⟨_, _, rfl⟩ <;> exact ⟨nofun, nofun⟩
    | cons j q =>
      obtain ⟨cj, b', hcj, hb', rfl⟩ := encFlat_cons hb
      rw [List.cons_prefix_cons, code_prefix hci hcj, ih q a' b' ha' hb']

end IslaVerif.C16
