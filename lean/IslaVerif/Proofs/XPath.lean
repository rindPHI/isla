import IslaVerif.Model.XPath
/-
`nthOcc T i e 0` is the position of the `i`-th `T` in `e`; matching a node against `altTree g V e` with `x`
bound to position `k` succeeds iff the node is labelled `V` and expanded by exactly the alternative `e`, and
then binds `x` to the `k`-th child.
-/
namespace IslaVerif.XPath
open IslaVerif.Sem

theorem nthOcc_iff (T : String) (i : Nat) (e : List String) (pos k : Nat) :
    nthOcc T i e pos = some k ↔
      ∃ j, k = pos + j ∧ e[j]? = some T ∧ (e.take j).count T + 1 = i := by
  -- `Nat.or_exists_add_one` splits `∃ j` into `j = 0`, the head, and `j = j' + 1`, a position in `rest`
  fun_induction nthOcc T i e pos with
  | case1 => simp -- `i = 0`
  | case2 => simp -- `e = []`
  | case3 i s rest pos hs hi => -- `s = T` is the occurrence asked for
    rw [← Nat.or_exists_add_one]
    simp only [beq_iff_eq] at hs hi
    simp [List.take_succ_cons, hs, hi, eq_comm (a := pos)]
  | case4 i s rest pos hs hi ih => -- `s = T`, one occurrence fewer to find in `rest`
    rw [← Nat.or_exists_add_one, ih]
    simp only [beq_iff_eq] at hs hi
    -- the head is the first occurrence, not the `i + 1`-st; position `n + 1` is position `n` of `rest`
    rw [or_iff_right fun h => hi (Nat.succ.inj h.2.2).symm]
    simp only [List.getElem?_cons_succ, List.take_succ_cons, hs, List.count_cons_self, Nat.add_right_comm pos 1,
      Nat.succ_eq_add_one, Nat.add_right_cancel_iff]
    rfl
  | case5 i s rest pos hs ih => -- `s ≠ T`
    rw [← Nat.or_exists_add_one, ih]
    simp only [beq_iff_eq] at hs
    -- the head is not `T`
    rw [or_iff_right fun h => hs (Option.some.inj h.2.1)]
    simp only [List.getElem?_cons_succ, List.take_succ_cons, List.count_cons_of_ne hs, Nat.add_right_comm pos 1]
    rfl

theorem nthOcc_lt {T : String} {i : Nat} {e : List String} {k : Nat}
    (h : nthOcc T i e 0 = some k) : k < e.length := by
  obtain ⟨j, rfl, hj, _⟩ := (nthOcc_iff T i e 0 k).1 h
  rw [Nat.zero_add]
  exact (List.getElem?_eq_some_iff.1 hj).1

theorem nthOcc_mem {T : String} {i : Nat} {e : List String} {k : Nat}
    (h : nthOcc T i e 0 = some k) : T ∈ e := by
  obtain ⟨j, _, hj, _⟩ := (nthOcc_iff T i e 0 k).1 h
  exact List.mem_of_getElem? hj

theorem nthOcc_isSome_iff (T : String) (i : Nat) (e : List String) (pos : Nat) :
    (nthOcc T i e pos).isSome = true ↔ 1 ≤ i ∧ i ≤ e.count T := by
  fun_induction nthOcc T i e pos with
  | case1 => simp
  | case2 => simp
  | case3 i s rest pos hs hi =>
    simp only [beq_iff_eq] at hs hi
    simp [hs, hi]
  | case4 i s rest pos hs hi ih =>
    simp only [beq_iff_eq] at hs hi
    rw [ih, hs, List.count_cons_self]
    omega
  | case5 i s rest pos hs ih =>
    simp only [beq_iff_eq] at hs
    rw [ih, List.count_cons_of_ne hs]

theorem sym_openLeaf (i : Nat) (s : String) : (DTree.openLeaf i s).sym = s := rfl
theorem sym_node (i : Nat) (s : String) (ks : List DTree) : (DTree.node i s ks).sym = s := rfl
theorem kids_openLeaf (i : Nat) (s : String) : (DTree.openLeaf i s).kids = [] := rfl
theorem kids_node (i : Nat) (s : String) (ks : List DTree) : (DTree.node i s ks).kids = ks := rfl

theorem altLeaf_sym (g : Grammar) (s : String) : (altLeaf g s).sym = s := by
  unfold altLeaf
  split <;> rfl

theorem altLeaf_kids (g : Grammar) (s : String) : (altLeaf g s).kids = [] := by
  unfold altLeaf
  split <;> rfl

-- `matchM.eq_def` is the definition as it is written.  The equation lemmas that `rw [matchM]` would
-- choose from are split along the overlapping patterns of its inner matches and carry side
-- conditions (`P` is not of the form `[(v, [])]`).

theorem matchM_altLeaf_nil (g : Grammar) (pos : Path) (c : DTree) (s : String) :
    matchM pos c (altLeaf g s) [] = if c.sym = s then some [] else none := by
  unfold altLeaf
  split
  · rw [matchM.eq_def]
    simp [sym_openLeaf, kids_openLeaf]
  · rw [matchM.eq_def]
    simp [sym_node, kids_node]

theorem matchM_altLeaf_bound (g : Grammar) (pos : Path) (c : DTree) (s x : String) :
    matchM pos c (altLeaf g s) [(x, [])] = if c.sym = s then some [(x, pos)] else none := by
  -- on the single binding `[(x, [])]` `matchM` answers before it looks at the shape of the pattern tree
  rw [matchM.eq_def]
  simp [altLeaf_sym, altLeaf_kids]

theorem bindsAt_single (x : String) (k j : Nat) :
    bindsAt [(x, [k])] j = if k = j then [(x, [])] else [] := by
  by_cases h : k = j <;> simp [bindsAt, h]

theorem matchM_altLeaf_bindsAt (g : Grammar) (pos : Path) (c : DTree) (s x : String) (k j : Nat) :
    matchM (pos ++ [j]) c (altLeaf g s) (bindsAt [(x, [k])] j) =
      if c.sym = s then some (if k = j then [(x, pos ++ [k])] else []) else none := by
  rw [bindsAt_single]
  by_cases h : k = j
  · rw [if_pos h, if_pos h, h, matchM_altLeaf_bound]
  · rw [if_neg h, if_neg h, matchM_altLeaf_nil]

theorem window_cons {α : Type} (b : α) (k j n : Nat) :
    ((if k = j then [b] else []) ++ if j + 1 ≤ k ∧ k < j + 1 + n then [b] else []) =
      if j ≤ k ∧ k < j + (n + 1) then [b] else [] := by
  by_cases hkj : k = j
  · -- `j` is the head of the window and not in its tail
    have h1 : ¬ (j + 1 ≤ k ∧ k < j + 1 + n) := by omega
    have h2 : j ≤ k ∧ k < j + (n + 1) := by omega
    rw [if_pos hkj, if_neg h1, if_pos h2]
    rfl
  · -- any other position is in the window iff it is in its tail
    have h : (j + 1 ≤ k ∧ k < j + 1 + n) ↔ (j ≤ k ∧ k < j + (n + 1)) := by omega
    rw [if_neg hkj, List.nil_append]
    simp only [h]

theorem matchKids_alt (g : Grammar) (pos : Path) (x : String) (k : Nat) (ks : List DTree) :
    ∀ (e : List String) (j : Nat), ks.length = e.length →
      matchKids pos j ks (e.map (altLeaf g)) [(x, [k])] =
        if ks.map DTree.sym = e then
          some (if j ≤ k ∧ k < j + ks.length then [(x, pos ++ [k])] else [])
        else none := by
  induction ks with
  | nil =>
    intro e j hl
    cases List.eq_nil_of_length_eq_zero hl.symm
    simp [matchKids]
  | cons c ks ih =>
    intro e j hl
    cases e with
    | nil => cases hl
    | cons s e =>
      rw [List.map_cons, matchKids, matchM_altLeaf_bindsAt, ih e (j + 1) (Nat.succ.inj hl)]
      by_cases hs : c.sym = s
      · by_cases he : ks.map DTree.sym = e
        · simp only [hs, he, if_true, window_cons, List.map_cons, List.length_cons]
        · simp [hs, he]
      · simp [hs]

theorem matchM_altTree (g : Grammar) (pos : Path) (x V : String) (k : Nat) (t : DTree)
    (e : List String) (hk : k < e.length) :
    matchM pos t (altTree g V e) [(x, [k])] =
      if t.sym = V ∧ t.kids.map DTree.sym = e then some [(x, pos ++ [k])] else none := by
  unfold altTree
  cases e with
  | nil => simp at hk
  | cons s e =>
    rw [List.map_cons, matchM.eq_def]
    simp only [sym_node, kids_node, List.length_cons, List.length_map]
    by_cases hs : t.sym = V
    · by_cases hl : t.kids.length = e.length + 1
      · rw [← List.map_cons, matchKids_alt g pos x k t.kids (s :: e) 0 hl]
        have h2 : k < e.length + 1 := hk
        simp [hs, hl, h2]
      · have : ¬ t.kids.map DTree.sym = s :: e :=
          fun h => hl (by rw [← List.length_map (f := DTree.sym), h]; rfl)
        simp [hs, hl, this]
    · simp [hs]

theorem mem_childMTrees (g : Grammar) (V T : String) (i : Nat) (x : String) (m : MTree) :
    m ∈ childMTrees g V T i x ↔ ∃ e k, e ∈ (g.alts V).getD [] ∧ nthOcc T i e 0 = some k ∧
      m = { tree := altTree g V e, binds := [(x, [k])] } := by
  simp only [childMTrees, List.mem_filterMap, Option.map_eq_some_iff]
  constructor
  · rintro ⟨e, he, k, hk, rfl⟩; exact ⟨e, k, he, hk, rfl⟩
  · rintro ⟨e, k, he, hk, rfl⟩; exact ⟨e, he, k, hk, rfl⟩

end IslaVerif.XPath
