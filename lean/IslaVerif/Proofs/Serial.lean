import IslaVerif.Model.Serial
/-
`from_dict` on one node written by `to_json` gives the node back with the two k-path caches emptied
(`decodeF_encFields`, the children left as a variable); the round trip of the codec is then a mutual induction
on tree and child list, with the nesting depth as fuel.  For the object-state machine the invariant is the
erasure (structure, identities, labels): no operation changes `erase` of the live object (`step_erase`).
-/
namespace IslaVerif.C17
open IslaVerif.Serial IslaVerif.Serial.CTree

/-- `from_dict` empties the two k-path caches: the record update of `clearK` and of the last line of
`decFields` (Model/Serial.lean) -/
def clearF (f : Fields) : Fields := { f with kPaths := false, concreteKPaths := false }

theorem dOptNat_jOptNat (o : Option Nat) : dOptNat (jOptNat o) = some o := by
  cases o <;> simp [jOptNat, dOptNat]

theorem dOptInt_jOptInt (o : Option Int) : dOptInt (jOptInt o) = some o := by
  cases o <;> rfl

theorem dOptBool_jOptBool (o : Option Bool) : dOptBool (jOptBool o) = some o := by
  cases o <;> rfl

theorem decodeF_encFields (n : Nat) (s : String) (c : JVal) (i : Nat) (f : Fields) :
    decodeF (n + 1) (encFields s c i f) =
      match c with
      | .null => some (openLeaf i s (clearF f))
      | .arr xs => (decodeFL n xs).map fun ks => node i s ks (clearF f)
      | _ => none := by
  rw [encFields, decodeF]
  simp only [decFields, lookup, String.reduceBEq, BEq.rfl, ↓reduceIte, Bool.false_eq_true]
  simp only [ge_iff_le, Int.natCast_nonneg, Int.toNat_natCast, ↓reduceIte, dOptNat_jOptNat, dOptInt_jOptInt,
    dOptBool_jOptBool, Option.bind_some, Option.pure_def, Option.bind_eq_bind]
  cases c with
  | arr xs =>
    dsimp only
    cases decodeFL n xs <;> rfl
  | _ => rfl

mutual
theorem decodeF_encode : ∀ (t : CTree) (fuel : Nat), depth t ≤ fuel →
    decodeF fuel (encode t) = some (clearK t)
  | .openLeaf i s f, n + 1, _ => by rw [encode, decodeF_encFields]; rfl
  | .node i s ks f, n + 1, h => by
    rw [depth] at h
    rw [encode, decodeF_encFields]
    simp only [decodeFL_encodeL ks n (by omega)]; rfl
  | .openLeaf .., 0, h | .node .., 0, h => by rw [depth] at h; omega
theorem decodeFL_encodeL : ∀ (ks : List CTree) (fuel : Nat), depthL ks ≤ fuel →
    decodeFL fuel (encodeL ks) = some (clearKL ks)
  | [], fuel, _ => by rw [encodeL, decodeFL, clearKL]
  | k :: ks, fuel, h => by
    rw [depthL, Nat.max_le] at h
    rw [encodeL, decodeFL, decodeF_encode k fuel h.1, decodeFL_encodeL ks fuel h.2, clearKL]
end

mutual
theorem depth_le_jdepth : ∀ t : CTree, depth t ≤ jdepth (encode t)
  | .openLeaf i s f => Nat.le_add_right 1 _
  | .node i s ks f => by
    have := depthL_le_jdepthL ks
    simp only [depth, encode, encFields, jdepth, jdepthKV]
    omega
theorem depthL_le_jdepthL : ∀ ks : List CTree, depthL ks ≤ jdepthL (encodeL ks)
  | [] => Nat.le_refl 0
  | k :: ks => Nat.max_le.2 ⟨Nat.le_trans (depth_le_jdepth k) (Nat.le_max_left _ _),
      Nat.le_trans (depthL_le_jdepthL ks) (Nat.le_max_right _ _)⟩
end

theorem updateAt_none_get (g : Fields → Fields) (p : List Nat) (t : CTree) :
    updateAt t p g = none → get t p = none := by
  fun_induction updateAt t p g with
  | case1 => nofun
  | case2 => exact fun _ => rfl
  | case3 i s ks f j p g hk => exact fun _ => by rw [CTree.get, hk]
  | case4 i s ks f j p g k hk ih => exact fun h => by rw [CTree.get, hk]; exact ih (Option.map_eq_none_iff.1 h)

theorem erase_setFields {t : CTree} {f : Fields} : erase (t.setFields f) = erase t := by
  cases t <;> rfl

theorem eraseL_set_of_erase_eq (ks : List CTree) (j : Nat) {k k' : CTree} (h : ks[j]? = some k)
    (he : erase k' = erase k) : eraseL (ks.set j k') = eraseL ks := by
  induction ks generalizing j with
  | nil => cases h
  | cons k0 ks ih =>
    cases j with
    | zero =>
      cases h
      rw [List.set_cons_zero, eraseL, eraseL, he]
    | succ j => rw [List.set_cons_succ, eraseL, eraseL, ih j h]

theorem updateAt_erase (g : Fields → Fields) (p : List Nat) (t t' : CTree) :
    updateAt t p g = some t' → erase t' = erase t := by
  fun_induction updateAt t p g generalizing t' with
  | case1 t g => rintro ⟨⟩; exact erase_setFields
  | case2 => nofun
  | case3 => nofun
  | case4 i s ks f j p g k hk ih =>
    intro h
    obtain ⟨k', hu, rfl⟩ := Option.map_eq_some_iff.1 h
    rw [erase, erase, eraseL_set_of_erase_eq ks j hk (ih k' hu)]

theorem step_erase (t : CTree) (op : Op) : erase (step t op).1 = erase t := by
  cases op with
  | kPaths p | concreteKPaths p =>
    simp only [step]
    split
    · exact updateAt_erase _ p t _ ‹_›
    · rfl
  | toJson => rfl
  | pickleRoundTrip =>
    simp only [step]
    split <;> rfl
  | observe l h sh o => exact erase_setFields

end IslaVerif.C17
