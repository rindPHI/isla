import IslaVerif.Model.Smt
/-
The decimal numerals of the SMT model are core's (`Char.isDigit`, `Nat.ofDigitChars 10`, `Nat.toDigits 10`),
so core's round trip applies. `Intervals.isDigit` and `Intervals.digitsVal` are the same functions.
-/
namespace IslaVerif.Smt

theorem isDigitC_eq (c : Char) : isDigitC c = c.isDigit := rfl

theorem digitsVal_eq (s : List Char) : digitsVal s = Nat.ofDigitChars 10 s 0 := by
  unfold digitsVal Nat.ofDigitChars
  congr
  funext a c
  rw [Nat.mul_comm]

theorem natDigitsAux_eq (fuel n : Nat) (acc : List Char) :
    natDigitsAux fuel n acc = Nat.toDigitsCore 10 fuel n acc := by
  induction fuel generalizing n acc with
  | zero => rfl
  | succ f ih =>
    have hd : Char.ofNat ('0'.toNat + n % 10) = (n % 10).digitChar :=
      (by decide +kernel : ∀ d : Fin 10, Char.ofNat ('0'.toNat + d.val) = d.val.digitChar) ⟨n % 10, Nat.mod_lt _ (by decide)⟩
    unfold natDigitsAux Nat.toDigitsCore
    simp only [hd, ih, Nat.div_eq_zero_iff_lt (by decide : 0 < 10)]

theorem natDigits_eq (n : Nat) : natDigits n = Nat.toDigits 10 n := natDigitsAux_eq ..

theorem toDigits_spec (n : Nat) :
    Nat.toDigits 10 n ≠ [] ∧ (∀ c ∈ Nat.toDigits 10 n, isDigitC c = true) ∧ digitsVal (Nat.toDigits 10 n) = n :=
  ⟨Nat.toDigits_ne_nil, fun c hc => (isDigitC_eq c).trans (Nat.isDigit_of_mem_toDigits (by decide) (by decide) hc),
    (digitsVal_eq _).trans Nat.ofDigitChars_ten_toDigits⟩

end IslaVerif.Smt
