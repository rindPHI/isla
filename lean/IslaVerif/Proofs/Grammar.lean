import IslaVerif.Model.Grammar
import IslaVerif.Proofs.Tree
/-
What `valid` asks of a node is said once (`valid_node_iff`); proofs about valid trees then go by `DTree.ind`
or along a path. Only Proofs/Derivation, whose list halves are stated with `validL`, also uses the defining
equations of the mutual pair.
-/
namespace IslaVerif
namespace DTree
open Grammar

theorem _root_.IslaVerif.Grammar.kidsMatch_iff {alt syms : List String} :
    kidsMatch alt syms = true ↔ syms = alt ∨ (alt = [] ∧ syms = [""]) := by
  simp [Grammar.kidsMatch]

theorem not_isNT_alts {g : Grammar} {s : String} (h : isNT g s = false) : alts g s = none :=
  Option.not_isSome_iff_eq_none.1 (Bool.eq_false_iff.1 h)

theorem validL_iff (g : Grammar) (ks : List DTree) : validL g ks = true ↔ ∀ k ∈ ks, k.valid g = true := by
  induction ks with
  | nil => exact ⟨fun _ => nofun, fun _ => rfl⟩
  | cons k ks ih => rw [validL, Bool.and_eq_true, ih, List.forall_mem_cons]

theorem valid_node_iff {g : Grammar} {i : Nat} {s : String} {ks : List DTree} :
    (node i s ks).valid g = true ↔
      (alts g s = none ∧ ks = [] ∨ ∃ alt ∈ (alts g s).getD [], kidsMatch alt (ks.map DTree.sym) = true) ∧
        ∀ k ∈ ks, k.valid g = true := by
  rw [valid]
  cases alts g s with
  | none =>
    rw [List.isEmpty_iff]
    constructor
    · rintro rfl
      exact ⟨Or.inl ⟨rfl, rfl⟩, nofun⟩
    · rintro ⟨⟨_, h⟩ | ⟨_, ha, _⟩, _⟩
      · exact h
      · cases ha
  | some as =>
    rw [Bool.and_eq_true, List.any_eq_true, validL_iff]
    exact and_congr_left fun _ => ⟨Or.inr, fun h => h.resolve_left nofun⟩

theorem valid_node_alt {g : Grammar} {i : Nat} {s : String} {ks : List DTree}
    (hv : (node i s ks).valid g = true) (hne : ks ≠ []) :
    ∃ alt ∈ (g.alts s).getD [], kidsMatch alt (ks.map DTree.sym) = true :=
  (valid_node_iff.1 hv).1.resolve_left fun h => hne h.2

theorem valid_kid {g : Grammar} {i : Nat} {s : String} {ks : List DTree} {k : DTree} (hk : k ∈ ks)
    (hv : (node i s ks).valid g = true) : k.valid g = true :=
  (valid_node_iff.1 hv).2 k hk

theorem valid_get (g : Grammar) (p : Path) (t u : DTree) : t.valid g = true → t.get p = some u →
    u.valid g = true := by
  induction p generalizing t with
  | nil =>
    intro ht h
    cases h
    exact ht
  | cons j p ih =>
    intro ht h
    obtain ⟨i, s, ks, hj, rfl, hu⟩ := get_cons_eq_some.1 h
    exact ih _ (valid_kid (List.getElem_mem hj) ht) hu

/-- the leaf `expansion_to_children` makes for a symbol -/
theorem valid_symLeaf (g : Grammar) (s : String) (i : Nat) :
    (if isNT g s = true then openLeaf i s else node i s []).valid g = true := by
  split
  · assumption
  · rename_i h
    exact valid_node_iff.2 ⟨Or.inl ⟨not_isNT_alts (Bool.eq_false_iff.2 h), rfl⟩, nofun⟩

theorem closed_iff (t : DTree) : t.closed = true ↔ t.hasOpen = false := by
  rw [closed, Bool.not_eq_true']

end DTree
end IslaVerif
